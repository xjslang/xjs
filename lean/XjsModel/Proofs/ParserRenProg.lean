import XjsModel.Proofs.ParserRenPass
import XjsModel.Model.Builder
/-
  Renaming, program level, and the instance for a registered operator: in the configuration a builder produces for
  one registered infix operator, that operator's token can be replaced everywhere by a built-in operator of the
  same level without changing what the parser does, up to that replacement.
-/
namespace Xjs.Ren
open Xjs

variable {cfg : PCfg} (ρ : Renaming cfg)

/-- PARSING COMMUTES WITH RENAMING: the parse of the renamed token list is the renamed parse -/
theorem ren_parseProgram (toks : List Token) (r : ParseResult) (h : parseProgram cfg toks = some r) :
    parseProgram cfg (toks.map (tokR ρ)) =
      some { prog := stmtListR ρ r.prog, errors := r.errors, hasErr := r.hasErr, final := psR ρ r.final } := by
  simpa [psR_eq, stmtListR_eq, Renaming.tokMap] using parseProgram_mapTok ρ.tokMap toks r h

/-! ### the instance: one registered infix operator and a built-in operator of its level -/

/-- the built-in binary operators that have no prefix role, one per level: `||` `&&` `==` `<` `+` `*` -/
def levelOp : Nat → Option TokType
  | 3 => some .or | 4 => some .and | 5 => some .eq | 6 => some .lt | 7 => some .plus | 8 => some .multiply
  | _ => none

/-- the configuration a fresh builder produces after `RegisterInfixOperator(dyn n, p)` -/
def cfgInfix (n p : Nat) (tolerant smart : Bool) : PCfg :=
  { tolerant := tolerant, smart := smart, precs := (.dyn n, p) :: basePrecedences,
    infixFns := (.dyn n, .binary) :: baseInfixFns }

theorem cfgInfix_is_builder (n p : Nat) :
    (Builder.new.registerInfix (.dyn n) p).1 = true ∧
    (Builder.new.registerInfix (.dyn n) p).2.config = cfgInfix n p false false := by
  have hn : (Builder.new.regInfix.contains (TokType.dyn n)) = false := by
    simp [Builder.new, basePrecedences]
  have hr : Builder.new.registerInfix (.dyn n) p =
      (true, { Builder.new with infixOps := [(.dyn n, p)], regInfix := .dyn n :: Builder.new.regInfix }) := by
    unfold Builder.registerInfix; rw [hn]; rfl
  rw [hr]
  exact ⟨rfl, rfl⟩

/-- replace the registered token type by the built-in operator -/
def swap (n : Nat) (b : TokType) : TokType → TokType := fun t => if t == .dyn n then b else t

theorem infixRenaming (n p : Nat) (b : TokType) (hb : levelOp p = some b) (tolerant smart : Bool) :
    ∃ ρ : Renaming (cfgInfix n p tolerant smart), ρ.f = swap n b := by
  have hcases : (p = 3 ∧ b = .or) ∨ (p = 4 ∧ b = .and) ∨ (p = 5 ∧ b = .eq) ∨ (p = 6 ∧ b = .lt) ∨ (p = 7 ∧ b = .plus) ∨
      (p = 8 ∧ b = .multiply) := by
    unfold levelOp at hb
    split at hb <;> simp_all
  refine ⟨{ f := swap n b, moves := ?_, precs := ?_, prefixFns := ?_, infixFns := ?_ }, rfl⟩
  · intro t ht
    unfold swap at ht ⊢
    by_cases e : (t == TokType.dyn n) = true
    · have : t = .dyn n := by simpa using e
      subst this
      simp only [beq_self_eq_true, if_true]
      rcases hcases with h | h | h | h | h | h <;> (rw [h.2]; exact ⟨rfl, rfl⟩)
    · simp [e] at ht
  all_goals
    intro t
    unfold swap cfgInfix
    by_cases e : (t == TokType.dyn n) = true
    · have : t = .dyn n := by simpa using e
      subst this
      simp only [beq_self_eq_true, if_true]
      rcases hcases with h | h | h | h | h | h <;> (obtain ⟨rfl, rfl⟩ := h; simp [lookup, basePrecedences, baseInfixFns, basePrefixFns, LOGICAL_OR, LOGICAL_AND, EQUALITY, COMPARISON, SUM, PRODUCT])
    · simp [e]

end Xjs.Ren
