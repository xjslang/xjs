import XjsModel.Proofs.ParserTotal
import XjsModel.Model.Builder
/-
  Totality of the parser: the operator tables of every parser a `Builder` produces satisfy `TablesOk`, provided no
  operator is registered for the EOF token and infix operators are registered at a level ≥ LOWEST.
-/
namespace Xjs.Total
open Xjs

theorem lookup_cons {β} (t : TokType) (v : β) (l : List (TokType × β)) (ty : TokType) :
    lookup ((t, v) :: l) ty = if t == ty then some v else lookup l ty := by
  unfold lookup
  simp only [List.find?_cons]
  cases h : (t == ty) <;> simp

/-- the two tables that the Pratt loop consults, extended in lockstep -/
def Lock (precs : List (TokType × Nat)) (infixFns : List (TokType × InfixKind)) : Prop :=
  (∀ ty, 1 < (lookup precs ty).getD LOWEST → (lookup infixFns ty).isSome = true) ∧
  (∀ ty, 1 ≤ (lookup precs ty).getD LOWEST) ∧ lookup infixFns .eof = none

theorem Lock.cons {precs infixFns} (h : Lock precs infixFns) (t : TokType) (p : Nat) (k : InfixKind)
    (ht : t ≠ .eof) (hp : 1 ≤ p) : Lock ((t, p) :: precs) ((t, k) :: infixFns) := by
  refine ⟨?_, ?_, ?_⟩
  · intro ty
    rw [lookup_cons, lookup_cons]
    by_cases e : (t == ty) = true
    · simp [e]
    · simp only [e, Bool.false_eq_true, if_false]; exact h.1 ty
  · intro ty
    rw [lookup_cons]
    by_cases e : (t == ty) = true
    · simp [e, hp]
    · simp only [e, Bool.false_eq_true, if_false]; exact h.2.1 ty
  · rw [lookup_cons]
    have : (t == TokType.eof) = false := by simpa using ht
    simp only [this, Bool.false_eq_true, if_false]; exact h.2.2

theorem lock_base : Lock basePrecedences baseInfixFns := by
  have h := tablesOk_base false false [] []
  exact ⟨h.infix_of_prec, h.prec_pos, h.eof_no_infix⟩

/-- registering a list of operators, each in both tables -/
theorem lock_foldl {α : Type} (g : α → TokType × Nat × InfixKind) (ops : List α) (h0 : ∀ o ∈ ops, (g o).1 ≠ .eof ∧ 1 ≤ (g o).2.1) :
    ∀ acc : List (TokType × Nat) × List (TokType × InfixKind), Lock acc.1 acc.2 →
      Lock (ops.foldl (fun acc o => (((g o).1, (g o).2.1) :: acc.1, ((g o).1, (g o).2.2) :: acc.2)) acc).1
           (ops.foldl (fun acc o => (((g o).1, (g o).2.1) :: acc.1, ((g o).1, (g o).2.2) :: acc.2)) acc).2 := by
  induction ops with
  | nil => intro acc h; exact h
  | cons o ops ih =>
    intro acc h
    simp only [List.foldl_cons]
    have := h0 o (by simp)
    exact ih (fun o' ho => h0 o' (by simp [ho])) _ (h.cons _ _ _ this.1 this.2)

theorem prefix_eof (ops : List TokType) (h0 : ∀ t ∈ ops, t ≠ .eof) :
    ∀ acc : List (TokType × PrefixKind), lookup acc .eof = none →
      lookup (ops.foldl (fun fns t => (t, PrefixKind.unary) :: fns) acc) .eof = none := by
  induction ops with
  | nil => intro acc h; exact h
  | cons t ops ih =>
    intro acc h
    simp only [List.foldl_cons]
    refine ih (fun o ho => h0 o (by simp [ho])) _ ?_
    rw [lookup_cons]
    have : (t == TokType.eof) = false := by simpa using h0 t (by simp)
    simp only [this, Bool.false_eq_true, if_false]; exact h

/-- every configuration a builder produces has tables the Pratt loop terminates on -/
theorem tablesOk_builder (b : Builder) (si : List SI) (ei : List EI)
    (hp : ∀ t ∈ b.prefixOps, t ≠ .eof) (hi : ∀ op ∈ b.infixOps, op.1 ≠ .eof ∧ 1 ≤ op.2) (hq : ∀ t ∈ b.postfixOps, t ≠ .eof) :
    TablesOk (b.config si ei) := by
  have h1 := lock_foldl (fun op => (op.1, op.2, InfixKind.binary)) b.infixOps.reverse (fun op ho => hi op (by simpa using ho))
    (basePrecedences, baseInfixFns) lock_base
  have h2 := lock_foldl (fun t => (t, CALL, InfixKind.postfix)) b.postfixOps (fun t ht => ⟨hq t ht, (by decide : 1 ≤ CALL)⟩) _ h1
  have h3 := prefix_eof b.prefixOps.reverse (fun t ht => hp t (by simpa using ht)) basePrefixFns (by decide)
  unfold Builder.config
  exact ⟨h2.1, h2.2.1, h2.2.2, h3⟩

end Xjs.Total
