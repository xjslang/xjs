import XjsModel.Proofs.Lexer
/-
  The gap in front of a token: what `readLeadingComments` skips is a run of whitespace and `//` comments, the
  after-newline flag says whether that run contains a line feed (C10), and the comment / blank-line entries the token
  carries are a function of the run's text (C15: "comments travel as token attachments").
-/
namespace Xjs.Tiling
open Xjs

/-- SPECIFICATION (trusted): a run of whitespace (space, tab, CR, LF) and `//` comments. A comment extends to the next
    line feed, which belongs to the run, or — as the last thing in the run — up to the end of the input or a NUL byte,
    which do not. -/
inductive TriviaRun : Bytes → Prop
  | nil : TriviaRun []
  | ws (c : Nat) (r : Bytes) : (c = 32 ∨ c = 9 ∨ c = 13 ∨ c = 10) → TriviaRun r → TriviaRun (c :: r)
  | commentLF (text r : Bytes) : (∀ c ∈ text, c ≠ 10 ∧ c ≠ 0) → TriviaRun r → TriviaRun (47 :: 47 :: (text ++ 10 :: r))
  | commentEnd (text : Bytes) : (∀ c ∈ text, c ≠ 10 ∧ c ≠ 0) → TriviaRun (47 :: 47 :: text)

/-- SPECIFICATION (trusted): the entries of a run of whitespace and `//` comments. Every line feed that is not the end
    of a comment gives an empty entry (a blank-line marker); every comment gives its text without trailing spaces. -/
inductive Entries : Bytes → List Bytes → Prop
  | nil : Entries [] []
  | lf (r : Bytes) (es : List Bytes) : Entries r es → Entries (10 :: r) ([] :: es)
  | ws (c : Nat) (r : Bytes) (es : List Bytes) : (c = 32 ∨ c = 9 ∨ c = 13) → Entries r es → Entries (c :: r) es
  | commentLF (text r : Bytes) (es : List Bytes) : (∀ c ∈ text, c ≠ 10 ∧ c ≠ 0) → Entries r es →
      Entries (47 :: 47 :: (text ++ 10 :: r)) (trimRightSpaces text :: es)
  | commentEnd (text : Bytes) : (∀ c ∈ text, c ≠ 10 ∧ c ≠ 0) → Entries (47 :: 47 :: text) [trimRightSpaces text]

/-- a text that has entries is a run -/
theorem Entries.run {b : Bytes} {es : List Bytes} (h : Entries b es) : TriviaRun b := by
  induction h with
  | nil => exact .nil
  | lf r _ _ ih => exact .ws 10 r (by simp) ih
  | ws c r _ hc _ ih => exact .ws c r (by omega) ih
  | commentLF text r _ ht _ ih => exact .commentLF text r ht ih
  | commentEnd text ht => exact .commentEnd text ht

/-- the rest of a comment whose first bytes `acc` have been read -/
def TailE (acc b : Bytes) (es : List Bytes) : Prop :=
  (∃ text r es', b = text ++ 10 :: r ∧ (∀ c ∈ text, c ≠ 10 ∧ c ≠ 0) ∧ Entries r es' ∧ es = trimRightSpaces (acc ++ text) :: es') ∨
  ((∀ c ∈ b, c ≠ 10 ∧ c ≠ 0) ∧ es = [trimRightSpaces (acc ++ b)])

theorem entries_of_tail {b : Bytes} {es : List Bytes} (h : TailE [] b es) : Entries (47 :: 47 :: b) es := by
  rcases h with ⟨text, r, es', rfl, ht, hr, rfl⟩ | ⟨h, rfl⟩
  · simpa using Entries.commentLF text r es' ht hr
  · simpa using Entries.commentEnd b h

theorem tailE_cons {c : Nat} {acc b : Bytes} {es : List Bytes} (h10 : c ≠ 10) (h0 : c ≠ 0) (h : TailE (acc ++ [c]) b es) :
    TailE acc (c :: b) es := by
  have hc : ∀ {l : Bytes}, (∀ x ∈ l, x ≠ 10 ∧ x ≠ 0) → ∀ x ∈ c :: l, x ≠ 10 ∧ x ≠ 0 := by
    intro l hl x hx
    rcases List.mem_cons.1 hx with rfl | hx
    · exact ⟨h10, h0⟩
    · exact hl x hx
  rcases h with ⟨text, r, es', rfl, ht, hr, rfl⟩ | ⟨h, rfl⟩
  · exact Or.inl ⟨c :: text, r, es', rfl, hc ht, hr, by simp⟩
  · exact Or.inr ⟨hc h, by simp⟩

/-! one step of `readLeadingComments` on each shape of input -/
theorem st_c_lf (r acc : Bytes) (t : Trivia) : scanTrivia (10 :: r) (some acc) t =
    scanTrivia r none { nl := true, comments := t.comments ++ [trimRightSpaces acc], len := t.len + 1 } := by
  rw [scanTrivia.eq_def]; simp
theorem st_c_nul (r acc : Bytes) (t : Trivia) : scanTrivia (0 :: r) (some acc) t =
    { t with comments := t.comments ++ [trimRightSpaces acc] } := by
  rw [scanTrivia.eq_def]; simp
theorem st_c_other (c : Nat) (r acc : Bytes) (t : Trivia) (h10 : c ≠ 10) (h0 : c ≠ 0) : scanTrivia (c :: r) (some acc) t =
    scanTrivia r (some (acc ++ [c])) { t with len := t.len + 1 } := by
  rw [scanTrivia.eq_def]; simp [h10, h0]
theorem st_n_lf (r : Bytes) (t : Trivia) : scanTrivia (10 :: r) none t =
    scanTrivia r none { nl := true, comments := t.comments ++ [[]], len := t.len + 1 } := by
  rw [scanTrivia.eq_def]; simp [isWs]
theorem st_n_ws (c : Nat) (r : Bytes) (t : Trivia) (hw : isWs c = true) (h10 : c ≠ 10) : scanTrivia (c :: r) none t =
    scanTrivia r none { t with len := t.len + 1 } := by
  rw [scanTrivia.eq_def]; simp [hw, h10]
theorem st_n_comment (r : Bytes) (t : Trivia) : scanTrivia (47 :: 47 :: r) none t =
    scanTrivia r (some []) { t with len := t.len + 2 } := by
  rw [scanTrivia.eq_def]; simp [isWs]
theorem st_n_slash1 (t : Trivia) : scanTrivia [47] none t = t := by
  rw [scanTrivia.eq_def]; simp [isWs]
theorem st_n_slash2 (c2 : Nat) (r : Bytes) (t : Trivia) (h : c2 ≠ 47) : scanTrivia (47 :: c2 :: r) none t = t := by
  rw [scanTrivia.eq_def]; simp [isWs, h]
theorem st_n_stop (c : Nat) (r : Bytes) (t : Trivia) (hw : isWs c = false) (h : c ≠ 47) : scanTrivia (c :: r) none t = t := by
  rw [scanTrivia.eq_def]; simp [hw, h]

/-- what a scan found, put behind what an earlier one found -/
def Trivia.add (u t : Trivia) : Trivia := { nl := u.nl || t.nl, comments := u.comments ++ t.comments, len := u.len + t.len }

theorem scanTrivia_add (u : Trivia) (b : Bytes) (m : Option Bytes) (t : Trivia) :
    scanTrivia b m (Trivia.add u t) = Trivia.add u (scanTrivia b m t) := by
  fun_induction scanTrivia b m t <;> simp_all [scanTrivia, st_n_lf, st_n_ws, st_n_stop, Trivia.add, Nat.add_assoc]

/-- the scan from a fresh accumulator -/
def gapScan (b : Bytes) (m : Option Bytes) : Trivia := scanTrivia b m { nl := false, comments := [], len := 0 }

/-- the entries of a text read between comments (`none`) or inside a comment whose text so far is `acc` -/
def EntriesIn (m : Option Bytes) (b : Bytes) (es : List Bytes) : Prop :=
  match m with
  | none => Entries b es
  | some acc => TailE acc b es

/-- what one scan finds, from a fresh accumulator: it stays inside the text; the flag says whether the bytes it consumed
    contain a line feed; the entries are those of the bytes it consumed; and it crossed a line feed, or (between
    comments) added no entry, or stopped at the end of the input or at a NUL byte — the only way a comment ends without a
    line feed -/
structure Scan (b : Bytes) (m : Option Bytes) : Prop where
  le : (gapScan b m).len ≤ b.length
  nl : (gapScan b m).nl = (b.take (gapScan b m).len).contains 10
  entries : EntriesIn m (b.take (gapScan b m).len) (gapScan b m).comments
  stop : (gapScan b m).nl = true ∨ (m = none ∧ (gapScan b m).comments = []) ∨ (b.drop (gapScan b m).len).headD 0 = 0

/-- the scan stops at once -/
theorem Scan.stay {b : Bytes} {m : Option Bytes} {es : List Bytes} (e : gapScan b m = { nl := false, comments := es, len := 0 })
    (hent : EntriesIn m [] es) (hstop : (m = none ∧ es = []) ∨ b.headD 0 = 0) : Scan b m := by
  refine ⟨?_, ?_, ?_, ?_⟩ <;> rw [e]
  · exact Nat.zero_le _
  · rfl
  · exact hent
  · exact Or.inr hstop

/-- the scan consumes the bytes `p`, adds `u` to its accumulator and goes on -/
theorem Scan.step {p b' : Bytes} {m m' : Option Bytes} {u : Trivia} (ih : Scan b' m')
    (e : ∀ t, scanTrivia (p ++ b') m t = scanTrivia b' m' (Trivia.add t u)) (hlen : u.len = p.length)
    (hnl : u.nl = p.contains 10)
    (hent : ∀ k es, EntriesIn m' (b'.take k) es → EntriesIn m (p ++ b'.take k) (u.comments ++ es))
    (hstop : u.nl = true ∨ (m' = none → m = none ∧ u.comments = [])) : Scan (p ++ b') m := by
  have e' : gapScan (p ++ b') m = Trivia.add u (gapScan b' m') := by
    unfold gapScan
    rw [e, ← scanTrivia_add]
    simp [Trivia.add]
  obtain ⟨h1, h2, h3, h4⟩ := ih
  refine ⟨?_, ?_, ?_, ?_⟩ <;> rw [e'] <;> simp only [Trivia.add, hlen]
  · rw [List.length_append]; omega
  · rw [List.take_length_add_append, List.contains_append, hnl, h2]
  · rw [List.take_length_add_append]; exact hent _ _ h3
  · rw [List.drop_length_add_append]
    rcases h4 with h4 | h4 | h4
    · exact Or.inl (by rw [h4, Bool.or_true])
    · rcases hstop with hs | hs
      · exact Or.inl (by rw [hs, Bool.true_or])
      · exact Or.inr (Or.inl ⟨(hs h4.1).1, by rw [(hs h4.1).2, h4.2]; rfl⟩)
    · exact Or.inr (Or.inr h4)

theorem scanTrivia_scan (b : Bytes) (m : Option Bytes) : Scan b m := by
  -- induction along the recursion of `scanTrivia`; the accumulator plays no part (`scanTrivia_add`)
  have stay : ∀ {b : Bytes}, gapScan b none = { nl := false, comments := [], len := 0 } → Scan b none :=
    fun e => Scan.stay e .nil (Or.inl ⟨rfl, rfl⟩)
  have ended : ∀ {b acc : Bytes}, gapScan b (some acc) = { nl := false, comments := [trimRightSpaces acc], len := 0 } →
      b.headD 0 = 0 → Scan b (some acc) :=
    fun e h0 => Scan.stay e (Or.inr ⟨by simp, by simp⟩) (Or.inr h0)
  refine scanTrivia.induct (motive := fun b m _ => Scan b m) ?_ ?_ ?_ ?_ ?_ ?_ ?_ ?_ ?_ ?_ ?_ b m
    { nl := false, comments := [], len := 0 }
  · intro _; exact stay rfl
  · intro acc _; exact ended rfl rfl
  · intro c rest acc _ h10 ih
    cases eq_of_beq h10
    exact Scan.step (p := [10]) (u := ⟨true, [trimRightSpaces acc], 1⟩) ih
      (fun t => (st_c_lf rest acc t).trans (by simp [Trivia.add])) rfl rfl
      (fun k es h => Or.inl ⟨[], rest.take k, es, rfl, by simp, h, by simp⟩) (Or.inl rfl)
  · intro c rest acc _ _ h0
    cases eq_of_beq h0
    exact ended (st_c_nul rest acc _) rfl
  · intro c rest acc _ h10 h0 ih
    have h10 : c ≠ 10 := by simpa using h10
    have h0 : c ≠ 0 := by simpa using h0
    exact Scan.step (p := [c]) (u := ⟨false, [], 1⟩) ih
      (fun t => (st_c_other c rest acc t h10 h0).trans (by simp [Trivia.add])) rfl (by simp [Ne.symm h10])
      (fun k es h => tailE_cons h10 h0 h) (Or.inr (fun h => nomatch h))
  · intro c rest _ _ h10 ih
    cases eq_of_beq h10
    exact Scan.step (p := [10]) (u := ⟨true, [[]], 1⟩) ih (fun t => (st_n_lf rest t).trans (by simp [Trivia.add])) rfl rfl
      (fun k es h => .lf _ es h) (Or.inl rfl)
  · intro c rest _ hw h10 ih
    have h10 : c ≠ 10 := by simpa using h10
    have hc : c = 32 ∨ c = 9 ∨ c = 13 := by
      simp only [isWs, Bool.or_eq_true, beq_iff_eq] at hw; omega
    exact Scan.step (p := [c]) (u := ⟨false, [], 1⟩) ih
      (fun t => (st_n_ws c rest t hw h10).trans (by simp [Trivia.add])) rfl (by simp [Ne.symm h10])
      (fun k es h => .ws c _ es hc h) (Or.inr (fun _ => ⟨rfl, rfl⟩))
  · intro c _ _ h47 c2 rest2 h2 ih
    cases eq_of_beq h47; cases eq_of_beq h2
    exact Scan.step (p := [47, 47]) (u := ⟨false, [], 2⟩) ih
      (fun t => (st_n_comment rest2 t).trans (by simp [Trivia.add])) rfl rfl
      (fun k es h => entries_of_tail h) (Or.inr (fun h => nomatch h))
  · intro c _ _ h47 c2 rest2 h2
    cases eq_of_beq h47
    exact stay (st_n_slash2 c2 rest2 _ (by simpa using h2))
  · intro c _ _ h47
    cases eq_of_beq h47
    exact stay (st_n_slash1 _)
  · intro c rest _ hw h47
    exact stay (st_n_stop c rest _ (by simpa using hw) (by simpa using h47))

/-! ### the gap before a token -/

theorem nextToken_nl (s : LS) : (nextToken s).1.nl = (trivia s.rest).nl := (baseNextToken_start _ _ _).2.2.1
theorem nextToken_comments (s : LS) : (nextToken s).1.comments = (trivia s.rest).comments := (baseNextToken_start _ _ _).2.2.2

/-- what `NextToken` skips before the token is a run of whitespace and comments inside the input, and the token's
    after-newline flag says exactly whether that run contains a line feed -/
theorem gap_is_trivia (s : LS) :
    (trivia s.rest).len ≤ s.rest.length ∧ TriviaRun (s.rest.take (trivia s.rest).len) ∧
    (nextToken s).1.nl = (s.rest.take (trivia s.rest).len).contains 10 :=
  have h := scanTrivia_scan s.rest none
  ⟨h.le, Entries.run h.entries, (nextToken_nl s).trans h.nl⟩

/-- the trivia entries a token carries are exactly the entries of the source text between the previous token and it -/
theorem token_comments_are_gap_entries (s : LS) :
    Entries (s.rest.take (trivia s.rest).len) (nextToken s).1.comments := by
  rw [nextToken_comments]; exact (scanTrivia_scan s.rest none).entries

/-- a text without line feeds is determined by what follows its first line feed -/
theorem split_at_lf {t1 t2 r1 r2 : Bytes} (h1 : ∀ c ∈ t1, c ≠ 10 ∧ c ≠ 0) (h2 : ∀ c ∈ t2, c ≠ 10 ∧ c ≠ 0)
    (h : t1 ++ 10 :: r1 = t2 ++ 10 :: r2) : t1 = t2 ∧ r1 = r2 := by
  induction t1 generalizing t2 with
  | nil =>
    cases t2 with
    | nil => simpa using h
    | cons c t2 =>
      simp only [List.nil_append, List.cons_append, List.cons.injEq] at h
      exact absurd h.1.symm (h2 c (by simp)).1
  | cons a t1 ih =>
    cases t2 with
    | nil =>
      simp only [List.nil_append, List.cons_append, List.cons.injEq] at h
      exact absurd h.1 (h1 a (by simp)).1
    | cons c t2 =>
      simp only [List.cons_append, List.cons.injEq] at h
      obtain ⟨e1, e2⟩ := ih (fun x hx => h1 x (by simp [hx])) (fun x hx => h2 x (by simp [hx])) h.2
      exact ⟨by rw [h.1, e1], e2⟩

/-- the specification is a function of the text: a gap has one list of entries -/
theorem Entries.unique {b : Bytes} {es es' : List Bytes} (h : Entries b es) (h' : Entries b es') : es = es' := by
  induction h generalizing es' with
  | nil => cases h'; rfl
  | lf r es _ ih =>
    cases h' with
    | lf _ _ h2 => rw [ih h2]
    | ws _ _ _ hc _ => omega
  | ws c r es hc _ ih =>
    cases h' with
    | lf _ _ _ => omega
    | ws _ _ _ _ h2 => exact ih h2
    | commentLF _ _ _ _ _ => omega
    | commentEnd _ _ => omega
  | commentLF text r es ht _ ih =>
    generalize hb : (47 :: 47 :: (text ++ 10 :: r)) = b at h'
    cases h' with
    | nil => cases hb
    | lf _ _ _ => cases hb
    | ws _ _ _ hc _ => simp only [List.cons.injEq] at hb; omega
    | commentLF text' r' es2 ht' h2 =>
      simp only [List.cons.injEq, true_and] at hb
      obtain ⟨e1, e2⟩ := split_at_lf ht ht' hb
      subst e1; subst e2; rw [ih h2]
    | commentEnd text' ht' =>
      simp only [List.cons.injEq, true_and] at hb
      exact absurd rfl (ht' 10 (by rw [← hb]; simp)).1
  | commentEnd text ht =>
    generalize hb : (47 :: 47 :: text) = b at h'
    cases h' with
    | nil => cases hb
    | lf _ _ _ => cases hb
    | ws _ _ _ hc _ => simp only [List.cons.injEq] at hb; omega
    | commentLF text' r' es2 ht' h2 =>
      simp only [List.cons.injEq, true_and] at hb
      exact absurd rfl (ht 10 (by rw [hb]; simp)).1
    | commentEnd text' ht' =>
      simp only [List.cons.injEq, true_and] at hb
      rw [hb]

/-! Non-vacuity: `⏎// a ⏎⏎//b` — blank-line marker, comment (trailing space cut), end of the comment line is not an
    entry, blank line, comment up to the end of input -/
example : Entries [10, 47, 47, 32, 97, 32, 10, 10, 47, 47, 98] [[], [32, 97], [], [98]] :=
  .lf _ _ (Entries.commentLF [32, 97, 32] _ _ (by decide) (.lf _ _ (Entries.commentEnd [98] (by decide))))

/-- a token that carries entries but does not follow a line break stands at the end of the input or on a NUL byte —
    in particular it is no `++` / `--` (a comment ends at a line feed, except the last one of the input) -/
theorem entries_without_line_break (s : LS) (hc : (nextToken s).1.comments ≠ []) (hn : (nextToken s).1.nl = false) :
    (readChars (trivia s.rest).len s).cur = 0 ∧
    (nextToken s).1.type ≠ .increment ∧ (nextToken s).1.type ≠ .decrement := by
  rw [nextToken_comments] at hc; rw [nextToken_nl] at hn
  have hcur : (readChars (trivia s.rest).len s).cur = 0 := by
    unfold LS.cur; rw [readChars_rest]
    rcases (scanTrivia_scan s.rest none).stop with h | h | h
    · exact absurd (h.symm.trans hn) (by decide)
    · exact absurd h.2 hc
    · exact h
  refine ⟨hcur, ?_, ?_⟩ <;>
  · unfold nextToken baseNextToken
    simp only [hcur]
    simp
    split <;> simp [mkTok]

end Xjs.Tiling
