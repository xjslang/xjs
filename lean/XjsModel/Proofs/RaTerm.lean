import XjsModel.Proofs.RaMain
/-
  Round trip: the layout the PRINTER produces — every expression, `let` and `return` statement closed by
  `;` — is admissible in every mode (`lay false`), so the printed tokens of every well-formed tree parse back to it.
-/
namespace Xjs.RA
open Xjs

mutual
  /-- every statement that can carry a `;` carries it (the compact printer's output) -/
  def SE.term : SE → Bool
    | .atom _ => true
    | .grp _ e _ => e.term
    | .un _ r => r.term
    | .bin _ l r => l.term && r.term
    | .post _ l => l.term
    | .call _ f args => f.term && args.term
    | .dot _ o _ => o.term
    | .idx _ o p => o.term && p.term
    | .asg _ l v => l.term && v.term
    | .casg _ l v => l.term && v.term
    | .arr _ es => es.term
    | .func _ _ _ body => body.term
    | .obj _ props => props.term
  def SEList.term : SEList → Bool
    | .nil => true
    | .cons e rest => e.term && rest.term
  def SPList.term : SPList → Bool
    | .nil => true
    | .cons k v rest => k.term && v.term && rest.term
  def SS.term : SS → Bool
    | .exprS e semi => semi && e.term
    | .letS _ _ v semi => semi && v.term
    | .letN _ _ => true
    | .ret _ v semi => semi && v.term
    | .retN _ => true
    | .ifS _ c thn => c.term && thn.term
    | .ifElse _ c thn _ els => c.term && thn.term && els.term
    | .whileS _ c body => c.term && body.term
    | .forS _ i c u body => i.term && c.term && u.term && body.term
    | .block body => body.term
    | .funcD _ _ _ body => body.term
  def SSList.term : SSList → Bool
    | .nil => true
    | .cons s rest => s.term && rest.term
  def SOpt.term : SOpt → Bool
    | .none => true
    | .some e => e.term
  def SInit.term : SInit → Bool
    | .none => true
    | .letV _ _ v => v.term
    | .letN _ _ => true
    | .expr e => e.term
end

theorem open_of_term : ∀ (s : SS), s.term = true → s.open = false
  | .exprS _ semi, h => by simp only [SS.term, Bool.and_eq_true] at h; simp [SS.open, h.1]
  | .letS _ _ _ semi, h => by simp only [SS.term, Bool.and_eq_true] at h; simp [SS.open, h.1]
  | .letN _ _, _ => rfl
  | .ret _ _ semi, h => by simp only [SS.term, Bool.and_eq_true] at h; simp [SS.open, h.1]
  | .retN _, _ => rfl
  | .ifS _ _ thn, h => by simp only [SS.term, Bool.and_eq_true] at h; simpa [SS.open] using open_of_term thn h.2
  | .ifElse _ _ _ _ els, h => by simp only [SS.term, Bool.and_eq_true] at h; simpa [SS.open] using open_of_term els h.2
  | .whileS _ _ body, h => by simp only [SS.term, Bool.and_eq_true] at h; simpa [SS.open] using open_of_term body h.2
  | .forS _ _ _ _ body, h => by simp only [SS.term, Bool.and_eq_true] at h; simpa [SS.open] using open_of_term body h.2
  | .block _, _ => rfl
  | .funcD _ _ _ _, _ => rfl

/-- behind a terminated statement anything but an `else` after an open `if` may follow -/
theorem follow_of_term (tol sm : Bool) (s : SS) (h : s.term = true) (f : Token) (hf : s.openIf = true → f.type ≠ .else_) :
    followOk tol sm s f = true := by
  unfold followOk
  rw [open_of_term s h]
  simp only [Bool.not_false, Bool.true_or, Bool.and_true, Bool.or_eq_true, Bool.not_eq_true', bne_iff_ne, ne_eq]
  cases ho : s.openIf with
  | false => exact Or.inl rfl
  | true => exact Or.inr (hf ho)

mutual
  theorem lay_of_term (tol sm : Bool) : ∀ (s : SE), s.wf = true → s.term = true → s.lay tol sm = true
    | .atom _, _, _ => rfl
    | .grp lp e rp, hw, ht => by
      simp only [SE.wf, SE.term, Bool.and_eq_true] at hw ht
      simpa only [SE.lay] using lay_of_term tol sm e hw.2 ht
    | .un t r, hw, ht => by
      simp only [SE.wf, SE.term, Bool.and_eq_true] at hw ht
      simpa only [SE.lay] using lay_of_term tol sm r hw.2 ht
    | .bin t l r, hw, ht => by
      simp only [SE.wf, SE.term, Bool.and_eq_true] at hw ht
      simp only [SE.lay, lay_of_term tol sm l hw.1.2 ht.1, lay_of_term tol sm r hw.2 ht.2, Bool.and_self]
    | .post t l, hw, ht => by
      simp only [SE.wf, SE.term, Bool.and_eq_true] at hw ht
      simpa only [SE.lay] using lay_of_term tol sm l hw.1.2 ht
    | .call t f args, hw, ht => by
      simp only [SE.wf, SE.term, Bool.and_eq_true] at hw ht
      simp only [SE.lay, lay_of_term tol sm f hw.1.2 ht.1, layL_of_term tol sm args hw.2 ht.2, Bool.and_self]
    | .dot t o p, hw, ht => by
      simp only [SE.wf, SE.term, Bool.and_eq_true] at hw ht
      simpa only [SE.lay] using lay_of_term tol sm o hw.1.2 ht
    | .idx t o p, hw, ht => by
      simp only [SE.wf, SE.term, Bool.and_eq_true] at hw ht
      simp only [SE.lay, lay_of_term tol sm o hw.1.2 ht.1, lay_of_term tol sm p hw.2 ht.2, Bool.and_self]
    | .asg t l v, hw, ht => by
      simp only [SE.wf, SE.term, Bool.and_eq_true] at hw ht
      simp only [SE.lay, lay_of_term tol sm l hw.1.2 ht.1, lay_of_term tol sm v hw.2 ht.2, Bool.and_self]
    | .casg t l v, hw, ht => by
      simp only [SE.wf, SE.term, Bool.and_eq_true] at hw ht
      simp only [SE.lay, lay_of_term tol sm l hw.1.2 ht.1, lay_of_term tol sm v hw.2 ht.2, Bool.and_self]
    | .arr t es, hw, ht => by
      simp only [SE.wf, SE.term, Bool.and_eq_true] at hw ht
      simpa only [SE.lay] using layL_of_term tol sm es hw.2 ht
    | .func t name ps body, hw, ht => by
      simp only [SE.wf, SE.term, Bool.and_eq_true] at hw ht
      simpa only [SE.lay] using layB_of_term tol sm body hw.2 ht rbrT (Or.inl rfl)
    | .obj t ps, hw, ht => by
      simp only [SE.wf, SE.term, Bool.and_eq_true] at hw ht
      simpa only [SE.lay] using layP_of_term tol sm ps hw.2 ht
  theorem layL_of_term (tol sm : Bool) : ∀ (es : SEList), es.wf = true → es.term = true → es.lay tol sm = true
    | .nil, _, _ => rfl
    | .cons e rest, hw, ht => by
      simp only [SEList.wf, SEList.term, Bool.and_eq_true] at hw ht
      simp only [SEList.lay, lay_of_term tol sm e hw.1 ht.1, layL_of_term tol sm rest hw.2 ht.2, Bool.and_self]
  theorem layP_of_term (tol sm : Bool) : ∀ (ps : SPList), ps.wf = true → ps.term = true → ps.lay tol sm = true
    | .nil, _, _ => rfl
    | .cons k v rest, hw, ht => by
      simp only [SPList.wf, SPList.term, Bool.and_eq_true] at hw ht
      simp only [SPList.lay, lay_of_term tol sm k hw.1.1 ht.1.1, lay_of_term tol sm v hw.1.2 ht.1.2,
        layP_of_term tol sm rest hw.2 ht.2, Bool.and_self]
  theorem layS_of_term (tol sm : Bool) : ∀ (s : SS), s.wf = true → s.term = true → s.lay tol sm = true
    | .exprS e semi, hw, ht => by
      simp only [SS.wf, SS.term, Bool.and_eq_true] at hw ht
      simpa only [SS.lay] using lay_of_term tol sm e hw.1.1 ht.2
    | .letS t name v semi, hw, ht => by
      simp only [SS.wf, SS.term, Bool.and_eq_true] at hw ht
      simpa only [SS.lay] using lay_of_term tol sm v hw.2 ht.2
    | .letN _ _, _, _ => rfl
    | .ret t v semi, hw, ht => by
      simp only [SS.wf, SS.term, Bool.and_eq_true] at hw ht
      simpa only [SS.lay] using lay_of_term tol sm v hw.1.2 ht.2
    | .retN _, _, _ => rfl
    | .ifS t c thn, hw, ht => by
      simp only [SS.wf, SS.term, Bool.and_eq_true] at hw ht
      simp only [SS.lay, lay_of_term tol sm c hw.1.2 ht.1, layS_of_term tol sm thn hw.2 ht.2, Bool.and_self]
    | .ifElse t c thn el els, hw, ht => by
      simp only [SS.wf, SS.term, Bool.and_eq_true, Bool.not_eq_true'] at hw ht
      -- the then-branch has no open `if` (wf), so an `else` may follow it
      have hf := follow_of_term tol sm thn ht.1.2 el (fun h => by rw [hw.1.1.2] at h; cases h)
      simp only [SS.lay, lay_of_term tol sm c hw.1.1.1.1.2 ht.1.1, layS_of_term tol sm thn hw.1.1.1.2 ht.1.2, hf,
        layS_of_term tol sm els hw.1.2 ht.2, Bool.and_self]
    | .whileS t c body, hw, ht => by
      simp only [SS.wf, SS.term, Bool.and_eq_true] at hw ht
      simp only [SS.lay, lay_of_term tol sm c hw.1.2 ht.1, layS_of_term tol sm body hw.2 ht.2, Bool.and_self]
    | .forS t i c u body, hw, ht => by
      simp only [SS.wf, SS.term, Bool.and_eq_true] at hw ht
      simp only [SS.lay, layI_of_term tol sm i hw.1.1.1.2 ht.1.1.1, layO_of_term tol sm c hw.1.1.2 ht.1.1.2,
        layO_of_term tol sm u hw.1.2 ht.1.2, layS_of_term tol sm body hw.2 ht.2, Bool.and_self]
    | .block body, hw, ht => by
      simp only [SS.wf, SS.term] at hw ht
      simpa only [SS.lay] using layB_of_term tol sm body hw ht rbrT (Or.inl rfl)
    | .funcD t name ps body, hw, ht => by
      simp only [SS.wf, SS.term, Bool.and_eq_true] at hw ht
      simpa only [SS.lay] using layB_of_term tol sm body hw.2 ht rbrT (Or.inl rfl)
  theorem layB_of_term (tol sm : Bool) : ∀ (ss : SSList), ss.wf = true → ss.term = true →
      ∀ (closer : Token), (closer.type = .rbrace ∨ closer.type = .eof) → ss.lay tol sm closer = true
    | .nil, _, _, _, _ => rfl
    | .cons s rest, hw, ht, closer, hcl => by
      simp only [SSList.wf, SSList.term, Bool.and_eq_true] at hw ht
      -- what follows `s` is the head of a statement or the closer: never an `else`
      have hf : followOk tol sm s ((rest.toks ++ [closer]).headD closer) = true := by
        apply follow_of_term tol sm s ht.1
        intro _
        cases rest with
        | nil => simp only [SSList.toks, List.nil_append, List.headD_cons]; rcases hcl with h | h <;> rw [h] <;> decide
        | cons s2 r2 =>
          simp only [SSList.wf, Bool.and_eq_true] at hw
          obtain ⟨t2, ts2, e1, _, _, e4⟩ := head_stmt s2 hw.2.1
          simp only [SSList.toks, e1, List.cons_append, List.headD_cons]; exact e4
      simp only [SSList.lay, Bool.and_eq_true]
      exact ⟨⟨layS_of_term tol sm s hw.1 ht.1, hf⟩, layB_of_term tol sm rest hw.2 ht.2 closer hcl⟩
  theorem layO_of_term (tol sm : Bool) : ∀ (o : SOpt), o.wf = true → o.term = true → o.lay tol sm = true
    | .none, _, _ => rfl
    | .some e, hw, ht => lay_of_term tol sm e hw ht
  theorem layI_of_term (tol sm : Bool) : ∀ (i : SInit), i.wf = true → i.term = true → i.lay tol sm = true
    | .none, _, _ => rfl
    | .letN _ _, _, _ => rfl
    | .expr e, hw, ht => lay_of_term tol sm e hw ht
    | .letV t name v, hw, ht => by
      simp only [SInit.wf, SInit.term, Bool.and_eq_true] at hw ht
      simpa only [SInit.lay] using lay_of_term tol sm v hw.2 ht
end

/-- THE PRINTER'S LAYOUT: every well-formed program with all its statement terminators written parses back to its tree in
    EVERY mode -/
theorem printed_program_round_trip {cfg : PCfg} (hc : BaseCfg cfg) (prog : SSList) (hw : prog.wf = true) (ht : prog.term = true)
    (eofTok : Token) (he : eofTok.type = .eof) :
    ∃ r, parseProgram cfg (prog.toks ++ [eofTok]) = some r ∧ r.prog = prog.tree ∧ r.errors = [] ∧ r.hasErr = false :=
  program_round_trip (tol := false) (sm := false) hc (fun h => by cases h) (fun h => by cases h) prog hw eofTok he
    (layB_of_term false false prog hw ht eofTok (Or.inr he))

end Xjs.RA
