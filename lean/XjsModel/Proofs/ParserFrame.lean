import XjsModel.Proofs.ParseRel
/-
  The frame of the parser: every parser function changes the state only by the primitive operations of `Steps`
  (an induction on `Parse`), and what follows from that by induction on `Steps`.
-/
namespace Xjs

theorem Parse.steps {cfg : PCfg} {E : Prop} {k : Kind} {c : Call k} {st : PS} {x : k.type} {st' : PS}
    (h : Parse cfg E c st x st') : ∀ s0, Steps s0 st → Steps s0 st' := by
  induction h
  all_goals intro s0 hs
  case stmtI_cons ih => exact ih _ (.trace _ _ hs)
  case exprI_observe ih => exact .precBracket _ _ hs (ih _ (.refl _))
  case exprI_reenter ih1 ih2 => exact .precBracket _ _ hs (ih2 _ (ih1 _ (.refl _)))
  case funcS ih1 ih2 =>
    exact .ctxBracket _ (steps_expectToken _ (ih1 _ (steps_expectToken _ (steps_expectToken _ hs)))) (ih2 _ (.refl _))
  case funcTail ih1 ih2 => exact .ctxBracket _ (steps_expectToken _ (ih1 _ (steps_expectToken _ hs))) (ih2 _ (.refl _))
  case block ih => exact .ctxBracket _ hs (ih _ (.next (.refl _)))
  case block_unclosed ih => exact .ctxBracket _ hs (steps_addError _ (ih _ (.next (.refl _))))
  -- everywhere else the final state says which primitive or which sub-parse produced it
  all_goals repeat' first
    | assumption | apply Steps.next | apply steps_expectToken | apply steps_expectSemi | apply steps_addError
    | apply_assumption

theorem steps_of_run {cfg : PCfg} {k : Kind} {c : Call k} {st : PS} {r : k.type × PS} (h : c.run cfg st = some r) :
    Steps st r.2 :=
  (Parse.of_run h).steps st (.refl st)

theorem steps_parseStatementI {cfg : PCfg} {is : List SI} {st : PS} {r : Stmt × PS}
    (h : parseStatementI cfg is st = some r) : Steps st r.2 :=
  steps_of_run (c := .stmtI is) h

theorem steps_parseExpressionI (cfg : PCfg) (is : List EI) (prec : Nat) (st : PS) (r : Expr × PS)
    (h : parseExpressionI cfg is prec st = some r) : Steps st r.2 :=
  steps_of_run (c := .exprI is prec) h

theorem steps_parseProgram (cfg : PCfg) (toks : List Token) (r : ParseResult)
    (h : parseProgram cfg toks = some r) : Steps (PS.init toks) r.final := by
  unfold parseProgram at h
  obtain ⟨⟨stmts, st⟩, h1, h2⟩ := bind_some h
  cases h2
  exact steps_of_run (c := .programLoop .nil) h1

/-! ## frame properties: each is an induction over `Steps` -/

theorem next_cur (st : PS) : st.next.cur = st.peek := by
  unfold PS.next PS.peek PS.cur; split <;> simp_all
theorem PS.next_ctx (s : PS) : s.next.ctx = s.ctx := by unfold PS.next; split <;> rfl
theorem PS.next_errors (s : PS) : s.next.errors = s.errors := by unfold PS.next; split <;> rfl
theorem PS.next_curPrec (s : PS) : s.next.curPrec = s.curPrec := by unfold PS.next; split <;> rfl
theorem PS.next_trace (s : PS) : s.next.trace = s.trace := by unfold PS.next; split <;> rfl
theorem next_len (st : PS) : st.next.toks.length ≤ st.toks.length ∧
    (2 ≤ st.toks.length → st.next.toks.length + 1 = st.toks.length) := by
  unfold PS.next; split <;> simp_all

/-- context balance: every parse function returns with the context stack it was entered with -/
theorem Steps.ctx_eq {s s' : PS} (h : Steps s s') : s'.ctx = s.ctx := by
  induction h with
  | refl => rfl
  | next _ ih => rw [PS.next_ctx, ih]
  | addErr _ _ _ _ ih => exact ih
  | trace _ _ _ ih => exact ih
  | ctxBracket c _ _ ih1 ih2 =>
    simp only [PS.pop, PS.push] at *
    rw [ih2, List.tail_cons, ih1]
  | precBracket _ _ _ _ ih1 ih2 => simp only at *; rw [ih2, ih1]

theorem Steps.errors_prefix {s s' : PS} (h : Steps s s') : s.errors <+: s'.errors := by
  induction h with
  | refl => exact List.prefix_refl _
  | next _ ih => rw [PS.next_errors]; exact ih
  | addErr _ _ _ _ ih => exact List.IsPrefix.trans ih (List.prefix_append _ _)
  | trace _ _ _ ih => exact ih
  | ctxBracket c _ _ ih1 ih2 => exact List.IsPrefix.trans ih1 ih2
  | precBracket _ _ _ _ ih1 ih2 => exact List.IsPrefix.trans ih1 ih2

theorem Steps.trace_prefix {s s' : PS} (h : Steps s s') : s.trace <+: s'.trace := by
  induction h with
  | refl => exact List.prefix_refl _
  | next _ ih => rw [PS.next_trace]; exact ih
  | addErr _ _ _ _ ih => exact ih
  | trace _ _ _ ih => exact List.IsPrefix.trans ih (List.prefix_append _ _)
  | ctxBracket c _ _ ih1 ih2 => exact List.IsPrefix.trans ih1 ih2
  | precBracket _ _ _ _ ih1 ih2 =>
    exact List.IsPrefix.trans ih1 (List.IsPrefix.trans (List.prefix_append _ _) ih2)

/-- `currentExpressionPrecedence` is restored by every parse function -/
theorem Steps.curPrec_eq {s s' : PS} (h : Steps s s') : s'.curPrec = s.curPrec := by
  induction h with
  | refl => rfl
  | next _ ih => rw [PS.next_curPrec, ih]
  | addErr _ _ _ _ ih => exact ih
  | trace _ _ _ ih => exact ih
  | ctxBracket c _ _ ih1 ih2 => simp only [PS.pop, PS.push] at *; rw [ih2, ih1]
  | precBracket _ _ _ _ ih1 _ => exact ih1

/-- the token buffer never grows: the cursor never moves backwards -/
theorem Steps.toks_length {s s' : PS} (h : Steps s s') : s'.toks.length ≤ s.toks.length := by
  induction h with
  | refl => exact Nat.le_refl _
  | next _ ih => exact Nat.le_trans (next_len _).1 ih
  | addErr _ _ _ _ ih => exact ih
  | trace _ _ _ ih => exact ih
  | ctxBracket c _ _ ih1 ih2 => simp only [PS.pop, PS.push] at *; exact Nat.le_trans ih2 ih1
  | precBracket _ _ _ _ ih1 ih2 => simp only at *; exact Nat.le_trans ih2 ih1

/-! ### what interceptors observe -/

/-- an event reports the context stack of the moment it was recorded -/
def Event.Faithful (ev : Event) : Prop :=
  ev.inFunction = ev.stack.contains .function ∧ ev.ctx = ev.stack.headD .global ∧ ev.depth = ev.stack.length

theorem PS.event_faithful (s : PS) (b : Bool) (id : Nat) : (s.event b id).Faithful := ⟨rfl, rfl, rfl⟩

/-- every event recorded during a sub-parse is faithful and its context stack extends the stack the
    sub-parse was entered with: an interceptor never sees a stack shallower than, or different below, its caller's -/
theorem Steps.events {s s' : PS} (h : Steps s s') :
    ∃ new, s'.trace = s.trace ++ new ∧ ∀ ev ∈ new, ev.Faithful ∧ s.ctx <:+ ev.stack := by
  induction h with
  | refl => exact ⟨[], by simp, by simp⟩
  | next _ ih =>
    obtain ⟨new, h1, h2⟩ := ih
    exact ⟨new, by rw [PS.next_trace, h1], h2⟩
  | addErr _ _ _ _ ih => exact ih
  | @trace s s1 b id h ih =>
    obtain ⟨new, h1, h2⟩ := ih
    refine ⟨new ++ [s1.event b id], by simp only [h1, List.append_assoc], ?_⟩
    intro ev hev
    simp only [List.mem_append, List.mem_singleton] at hev
    rcases hev with hev | hev
    · exact h2 ev hev
    · subst hev
      refine ⟨PS.event_faithful _ _ _, ?_⟩
      show s.ctx <:+ s1.ctx
      rw [h.ctx_eq]; exact List.suffix_refl _
  | @ctxBracket s s1 s2 c h1 _ ih1 ih2 =>
    obtain ⟨n1, a1, b1⟩ := ih1
    obtain ⟨n2, a2, b2⟩ := ih2
    refine ⟨n1 ++ n2, ?_, ?_⟩
    · simp only [PS.pop, PS.push] at *; rw [a2, a1, List.append_assoc]
    · intro ev hev
      simp only [List.mem_append] at hev
      rcases hev with hev | hev
      · exact b1 ev hev
      · refine ⟨(b2 ev hev).1, ?_⟩
        have := (b2 ev hev).2
        simp only [PS.push] at this
        rw [← h1.ctx_eq]
        exact List.IsSuffix.trans (List.suffix_cons _ _) this
  | @precBracket s s1 s2 p id h1 _ ih1 ih2 =>
    obtain ⟨n1, a1, b1⟩ := ih1
    obtain ⟨n2, a2, b2⟩ := ih2
    refine ⟨n1 ++ [s1.event true id] ++ n2, ?_, ?_⟩
    · simp only at *; rw [a2, a1]; simp only [List.append_assoc]
    · intro ev hev
      simp only [List.mem_append, List.mem_singleton] at hev
      rcases hev with (hev | hev) | hev
      · exact b1 ev hev
      · subst hev
        refine ⟨PS.event_faithful _ _ _, ?_⟩
        show s.ctx <:+ s1.ctx
        rw [h1.ctx_eq]; exact List.suffix_refl _
      · refine ⟨(b2 ev hev).1, ?_⟩
        have := (b2 ev hev).2
        simp only at this
        rw [← h1.ctx_eq]; exact this

/-! ### error ranges are token ranges -/

def Token.range (t : Token) : Nat × Nat × Nat × Nat := (t.sl, t.sc, t.el, t.ec)
def PErr.range (e : PErr) : Nat × Nat × Nat × Nat := (e.sl, e.sc, e.el, e.ec)

/-- the ranges of the tokens still in the buffer of `s'` are ranges of tokens of `L`, and every error of `s'`
    is an error of `E` or lies on the range of a token of `L` -/
structure RangesIn (L : List Token) (E : List PErr) (s' : PS) : Prop where
  nonempty : s'.toks ≠ []
  toks : ∀ t ∈ s'.toks, ∃ t0 ∈ L, t.range = t0.range
  errs : ∀ e ∈ s'.errors, e ∈ E ∨ ∃ t0 ∈ L, e.range = t0.range

theorem RangesIn.cur {L E s'} (h : RangesIn L E s') : ∃ t0 ∈ L, s'.cur.range = t0.range := by
  have hn := h.nonempty
  unfold PS.cur
  cases hs : s'.toks with
  | nil => exact absurd hs hn
  | cons a as => exact h.toks a (by rw [hs]; exact List.mem_cons_self)

theorem RangesIn.peek {L E s'} (h : RangesIn L E s') : ∃ t0 ∈ L, s'.peek.range = t0.range := by
  have hn := h.nonempty
  unfold PS.peek
  split
  · rename_i a b c heq; exact h.toks b (by rw [heq]; simp)
  · rename_i a heq
    obtain ⟨t0, h0, h1⟩ := h.toks a (by rw [heq]; simp)
    exact ⟨t0, h0, by rw [← h1]; rfl⟩
  · rename_i heq; exact absurd heq hn

theorem RangesIn.next {L E s'} (h : RangesIn L E s') : RangesIn L E s'.next := by
  have hn := h.nonempty
  unfold PS.next
  split
  · rename_i a b c heq
    refine ⟨by simp, ?_, h.errs⟩
    intro t ht
    exact h.toks t (by rw [heq]; exact List.mem_cons_of_mem _ ht)
  · rename_i a heq
    refine ⟨by simp, ?_, h.errs⟩
    intro t ht
    simp only [List.mem_singleton] at ht
    obtain ⟨t0, h0, h1⟩ := h.toks a (by rw [heq]; simp)
    exact ⟨t0, h0, by rw [ht, ← h1]; rfl⟩
  · rename_i heq; exact absurd heq hn

theorem Steps.ranges {s s' : PS} (h : Steps s s') (L : List Token) (E : List PErr) (h0 : RangesIn L E s) :
    RangesIn L E s' := by
  induction h with
  | refl => exact h0
  | next _ ih => exact (ih h0).next
  | addErr msg t ht _ ih =>
    have i := ih h0
    refine ⟨i.nonempty, i.toks, ?_⟩
    intro e he
    simp only [PS.addErrorAt, List.mem_append, List.mem_singleton] at he
    rcases he with he | he
    · exact i.errs e he
    · right
      rcases ht with ht | ht
      · obtain ⟨t0, a, b⟩ := i.cur; exact ⟨t0, a, by rw [he, ht, ← b]; rfl⟩
      · obtain ⟨t0, a, b⟩ := i.peek; exact ⟨t0, a, by rw [he, ht, ← b]; rfl⟩
  | trace _ _ _ ih => exact ⟨(ih h0).nonempty, (ih h0).toks, (ih h0).errs⟩
  | ctxBracket c _ _ ih1 ih2 =>
    have i1 := ih1 h0
    have i2 := ih2 ⟨i1.nonempty, i1.toks, i1.errs⟩
    exact ⟨i2.nonempty, i2.toks, i2.errs⟩
  | precBracket _ _ _ _ ih1 ih2 =>
    have i1 := ih1 h0
    have i2 := ih2 ⟨i1.nonempty, i1.toks, i1.errs⟩
    exact ⟨i2.nonempty, i2.toks, i2.errs⟩

end Xjs
