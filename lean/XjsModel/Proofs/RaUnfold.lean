import XjsModel.Proofs.RaDefs
import XjsModel.Proofs.ParserFrame
/-
  Round trip: one-step unfoldings of the parser on a known cursor, and state arithmetic.
-/
namespace Xjs.RA
open Xjs

/-- `k` calls of `NextToken` -/
def nextK : Nat → PS → PS
  | 0, st => st
  | k + 1, st => nextK k st.next

theorem next_eq (s : PS) : s.next = nextK 1 s := rfl

theorem nextK_nextK (a b : Nat) (s : PS) : nextK a (nextK b s) = nextK (b + a) s := by
  induction b generalizing s with
  | zero => rw [Nat.zero_add]; rfl
  | succ b ih => rw [Nat.succ_add]; exact ih _

theorem nextK_congr {a b : Nat} (h : a = b) (s : PS) : nextK a s = nextK b s := by rw [h]

theorem next_toks_cons {st : PS} {a b : Token} {ts : List Token} (h : st.toks = a :: b :: ts) : st.next.toks = b :: ts := by
  unfold PS.next; rw [h]

theorem cur_of_toks {st : PS} {a : Token} {ts : List Token} (h : st.toks = a :: ts) : st.cur = a := by
  unfold PS.cur; rw [h]; rfl
theorem peek_of_toks {st : PS} {a b : Token} {ts : List Token} (h : st.toks = a :: b :: ts) : st.peek = b := by
  unfold PS.peek; rw [h]
theorem identOfCur_of_toks {st : PS} {a : Token} {ts : List Token} (h : st.toks = a :: ts) : identOfCur st = identOf a := by
  unfold identOfCur identOf; rw [cur_of_toks h]

/-- the state after `pre` has been read (as long as one more token follows) -/
theorem toks_at (pre post : List Token) (st : PS) (h : st.toks = pre ++ post) (hp : post ≠ []) :
    (nextK pre.length st).toks = post := by
  obtain ⟨t, rest, rfl⟩ := List.exists_cons_of_ne_nil hp
  induction pre generalizing st with
  | nil => exact h
  | cons a pre ih =>
    apply ih
    cases pre <;> exact next_toks_cons h

theorem cur_at (pre : List Token) {t : Token} {post : List Token} {st : PS} (h : st.toks = pre ++ t :: post) :
    (nextK pre.length st).cur = t :=
  cur_of_toks (toks_at pre _ st h (List.cons_ne_nil _ _))

theorem peek_at (pre : List Token) {a t : Token} {post : List Token} {st : PS} (h : st.toks = pre ++ a :: t :: post) :
    (nextK pre.length st).peek = t :=
  peek_of_toks (toks_at pre _ st h (List.cons_ne_nil _ _))

theorem next_toks {st : PS} {a : Token} {ts : List Token} (h : st.toks = a :: ts) (hne : ts ≠ []) : st.next.toks = ts :=
  toks_at [a] ts st h hne

theorem toks_len_pos (s : SE) : 0 < s.toks.length := List.length_pos_iff.mpr (toks_ne_nil s)

/-- the cursor on the last token of `ts` -/
theorem toks_after {ts : List Token} (hne : ts ≠ []) {rest : List Token} {st : PS} (h : st.toks = ts ++ rest) :
    ∃ last, (nextK (ts.length - 1) st).toks = last :: rest := by
  refine ⟨ts.getLast hne, ?_⟩
  have := toks_at ts.dropLast (ts.getLast hne :: rest) st
    (by rw [h, List.append_cons, List.dropLast_concat_getLast hne]) (List.cons_ne_nil _ _)
  simpa using this

theorem peek_after {ts : List Token} (hne : ts ≠ []) {t : Token} {rest : List Token} {st : PS} (h : st.toks = ts ++ t :: rest) :
    (nextK (ts.length - 1) st).peek = t := by
  obtain ⟨last, hl⟩ := toks_after hne h
  exact peek_of_toks hl

/-- … and behind the token that follows `ts` -/
theorem toks_behind {ts : List Token} (hne : ts ≠ []) {t : Token} {more : List Token} (hm : more ≠ []) {st : PS}
    (h : st.toks = ts ++ t :: more) : (nextK (ts.length - 1) st).next.next.toks = more := by
  obtain ⟨last, hl⟩ := toks_after hne h
  exact toks_at [last, t] more _ hl hm

theorem next_errors' (st : PS) : st.next.errors = st.errors := by unfold PS.next; split <;> rfl

variable {cfg : PCfg}

theorem unfold_expr (p : Nat) (st : PS) :
    parseExpressionI cfg [] p st =
      (parsePrefixExpression cfg st >>= fun (x : Expr × PS) => parseRemaining cfg x.1 p x.2) := by
  rw [parseExpressionI]

theorem prefix_atom (hc : BaseCfg cfg) (st : PS) (h : (SE.atom st.cur).wf = true) :
    parsePrefixExpression cfg st = some (atomTree st.cur, st) := by
  rw [parsePrefixExpression, hc.prefixFns]
  simp only [SE.wf] at h
  unfold atomWf at h
  unfold atomTree
  cases hl : lookup basePrefixFns st.cur.type with
  | none => simp [hl] at h
  | some k =>
    cases k <;> simp_all [identOfCur]

theorem prefix_unary (hc : BaseCfg cfg) (st : PS) (h : lookup basePrefixFns st.cur.type = some .unary) :
    parsePrefixExpression cfg st =
      (parseExpressionI cfg [] UNARY st.next >>= fun (x : Expr × PS) => some (Expr.unary st.cur st.cur.lit x.1, x.2)) := by
  rw [parsePrefixExpression, hc.prefixFns, h, hc.exprI]

theorem prefix_group (hc : BaseCfg cfg) (st : PS) (h : st.cur.type = .lparen) :
    parsePrefixExpression cfg st =
      (parseExpressionI cfg cfg.exprI LOWEST st.next >>= fun (x : Expr × PS) =>
        if (expectToken .rparen x.2).1 then some (Expr.group st.cur x.1 (expectToken .rparen x.2).2.cur, (expectToken .rparen x.2).2)
        else some (Expr.none, (expectToken .rparen x.2).2)) := by
  have hl : lookup basePrefixFns TokType.lparen = some .group := by decide
  rw [parsePrefixExpression, hc.prefixFns, h, hl]
  simp only
  congr 1
  funext x
  cases (expectToken TokType.rparen x.2).1 <;> simp

/-- the loop at level `p` stops in front of a token that `stops` describes -/
theorem remaining_stop (left : Expr) (p : Nat) (st : PS) (tl : List Token) (h : stops cfg p (st.peek :: tl)) :
    parseRemaining cfg left p st = some (left, st) := by
  rw [parseRemaining]
  by_cases hc : (st.peek.type != TokType.semicolon && decide (p < peekPrecedence cfg st)) = true
  · simp only [hc, if_true]
    rcases h with h | h | h | h
    · simp [h] at hc
    · have : ¬ p < peekPrecedence cfg st := by unfold peekPrecedence; omega
      simp [this] at hc
    · have : (st.peek.nl && (st.peek.type == TokType.increment || st.peek.type == TokType.decrement)) = true := by
        rcases h.2 with e | e <;> simp [h.1, e]
      simp [this]
    · have : (cfg.smart && st.peek.nl && (st.peek.type == TokType.lparen || st.peek.type == TokType.lbracket)) = true := by
        rcases h.2.2 with e | e <;> simp [h.1, h.2.1, e]
      simp only [this, if_true]
      split <;> rfl
  · have : (st.peek.type != TokType.semicolon && decide (p < peekPrecedence cfg st)) = false := by simpa using hc
    simp [this]

/-- the loop at level `p` goes on over the token `t`, in every mode -/
theorem remaining_step (left : Expr) (p : Nat) {st : PS} {t : Token} (hpk : st.peek = t)
    (h1 : t.type ≠ .semicolon) (h2 : p < precOf cfg t.type)
    (h3 : t.nl = false ∨ (t.type ≠ .lparen ∧ t.type ≠ .lbracket))
    (h4 : t.nl = false ∨ (t.type ≠ .increment ∧ t.type ≠ .decrement)) :
    parseRemaining cfg left p st =
      (parseInfixExpression cfg left st >>= fun (x : Expr × PS) => parseRemaining cfg x.1 p x.2) := by
  subst hpk
  rw [parseRemaining]
  have a : (st.peek.type != TokType.semicolon && decide (p < peekPrecedence cfg st)) = true := by
    simp [peekPrecedence, h1, h2]
  have b : (cfg.smart && st.peek.nl && (st.peek.type == TokType.lparen || st.peek.type == TokType.lbracket)) = false := by
    rcases h3 with h3 | h3
    · simp [h3]
    · simp [h3.1, h3.2]
  have c : (st.peek.nl && (st.peek.type == TokType.increment || st.peek.type == TokType.decrement)) = false := by
    rcases h4 with h4 | h4
    · simp [h4]
    · simp [h4.1, h4.2]
  simp only [a, b, c, if_true, Bool.false_eq_true, if_false]

/-! the infix parse functions, with the operator token `t` under the peek cursor -/

theorem infix_binary (hc : BaseCfg cfg) (left : Expr) {st : PS} {t : Token} (hpk : st.peek = t)
    (h : lookup baseInfixFns t.type = some .binary) :
    parseInfixExpression cfg left st =
      (parseExpressionI cfg [] (precOf cfg t.type) st.next.next >>= fun (x : Expr × PS) =>
        some (Expr.binary t left t.lit x.1, x.2)) := by
  subst hpk
  rw [parseInfixExpression, hc.infixFns, h, hc.exprI]
  simp only [curPrecedence, next_cur]

theorem infix_postfix (hc : BaseCfg cfg) (left : Expr) {st : PS} {t : Token} (hpk : st.peek = t)
    (h : lookup baseInfixFns t.type = some .postfix) :
    parseInfixExpression cfg left st = some (Expr.postfix t left t.lit, st.next) := by
  subst hpk
  rw [parseInfixExpression, hc.infixFns, h]
  simp only [next_cur]

theorem infix_assign (hc : BaseCfg cfg) (left : Expr) {st : PS} {t : Token} (hpk : st.peek = t) (h : t.type = .assign) :
    parseInfixExpression cfg left st =
      (parseExpressionI cfg cfg.exprI LOWEST st.next.next >>= fun (x : Expr × PS) =>
        some (Expr.assign t left x.1, x.2)) := by
  subst hpk
  have hl : lookup baseInfixFns TokType.assign = some .assign := by decide
  rw [parseInfixExpression, hc.infixFns, h, hl]
  simp only [next_cur]

theorem infix_compound (hc : BaseCfg cfg) (left : Expr) {st : PS} {t : Token} (hpk : st.peek = t)
    (h : t.type = .plusAssign ∨ t.type = .minusAssign) :
    parseInfixExpression cfg left st =
      (parseExpressionI cfg cfg.exprI LOWEST st.next.next >>= fun (x : Expr × PS) =>
        some (Expr.compound t left (compoundOp t) x.1, x.2)) := by
  subst hpk
  have hl : lookup baseInfixFns st.peek.type = some .compound := by
    rcases h with h | h <;> rw [h] <;> decide
  rw [parseInfixExpression, hc.infixFns, hl]
  simp only [next_cur, compoundOp]

theorem infix_call (hc : BaseCfg cfg) (left : Expr) {st : PS} {t : Token} (hpk : st.peek = t) (h : t.type = .lparen) :
    parseInfixExpression cfg left st =
      (parseExpressionList cfg .rparen st.next >>= fun (x : ExprList × PS) =>
        some (Expr.call t left x.1, x.2)) := by
  subst hpk
  have hl : lookup baseInfixFns TokType.lparen = some .call := by decide
  rw [parseInfixExpression, hc.infixFns, h, hl]
  simp only [next_cur]

theorem infix_member (hc : BaseCfg cfg) (left : Expr) {st : PS} {t : Token} (hpk : st.peek = t) (h : t.type = .dot) :
    parseInfixExpression cfg left st =
      (parseExpressionI cfg [] MEMBER st.next.next >>= fun (x : Expr × PS) =>
        some (Expr.member t left x.1 false, x.2)) := by
  subst hpk
  have hl : lookup baseInfixFns TokType.dot = some .member := by decide
  rw [parseInfixExpression, hc.infixFns, h, hl, hc.exprI]
  simp only [next_cur]

theorem infix_index (hc : BaseCfg cfg) (left : Expr) {st : PS} {t : Token} (hpk : st.peek = t) (h : t.type = .lbracket) :
    parseInfixExpression cfg left st =
      (parseExpressionI cfg cfg.exprI LOWEST st.next.next >>= fun (x : Expr × PS) =>
        if (expectToken .rbracket x.2).1 then some (Expr.member t left x.1 true, (expectToken .rbracket x.2).2)
        else some (Expr.none, (expectToken .rbracket x.2).2)) := by
  subst hpk
  have hl : lookup baseInfixFns TokType.lbracket = some .index := by decide
  rw [parseInfixExpression, hc.infixFns, h, hl]
  simp only [next_cur]
  congr 1
  funext x
  cases (expectToken TokType.rbracket x.2).1 <;> simp

theorem prefix_array (hc : BaseCfg cfg) (st : PS) (h : st.cur.type = .lbracket) :
    parsePrefixExpression cfg st =
      (parseExpressionList cfg .rbracket st >>= fun (x : ExprList × PS) =>
        some (Expr.array st.cur x.1 x.2.cur, x.2)) := by
  have hl : lookup basePrefixFns TokType.lbracket = some .array := by decide
  rw [parsePrefixExpression, hc.prefixFns, h, hl]

theorem list_empty (endTy : TokType) (st : PS) (h : st.peek.type = endTy) :
    parseExpressionList cfg endTy st = some (.nil, st.next) := by
  rw [parseExpressionList]; simp [h]

theorem list_nonempty (endTy : TokType) (st : PS) (h : st.peek.type ≠ endTy) :
    parseExpressionList cfg endTy st =
      (parseExpressionI cfg cfg.exprI LOWEST st.next >>= fun (x : Expr × PS) =>
        exprListLoop cfg (.cons x.1 .nil) x.2 >>= fun (y : ExprList × PS) =>
          if (expectToken endTy y.2).1 then some (y.1, (expectToken endTy y.2).2) else some (.nil, (expectToken endTy y.2).2)) := by
  rw [parseExpressionList]
  have : (st.peek.type == endTy) = false := by simpa using h
  simp only [this, Bool.false_eq_true, if_false]

theorem loop_stop (acc : ExprList) (st : PS) (h : st.peek.type ≠ .comma) :
    exprListLoop cfg acc st = some (acc, st) := by
  rw [exprListLoop]
  have : (st.peek.type == TokType.comma) = false := by simpa using h
  simp [this]

theorem loop_step (acc : ExprList) (st : PS) (h : st.peek.type = .comma) :
    exprListLoop cfg acc st =
      (parseExpressionI cfg cfg.exprI LOWEST st.next.next >>= fun (x : Expr × PS) => exprListLoop cfg (acc.snoc x.1) x.2) := by
  rw [exprListLoop]
  simp [h]

/-! ### statements, parameter lists, contexts -/

theorem expect_ok {ty : TokType} {st : PS} (h : st.peek.type = ty) : expectToken ty st = (true, st.next) := by
  unfold expectToken; simp [h]

theorem semi_ok {st : PS} (h : st.peek.type = .semicolon) : expectSemiASI cfg st = (true, st.next) := by
  unfold expectSemiASI; simp [h]

theorem next_push (st : PS) (c : Ctx) : (st.push c).next = st.next.push c := by
  unfold PS.next PS.push; split <;> simp_all

theorem nextK_push (k : Nat) (st : PS) (c : Ctx) : nextK k (st.push c) = (nextK k st).push c := by
  induction k generalizing st with
  | zero => rfl
  | succ k ih => simp only [nextK]; rw [next_push, ih]

theorem pop_push (st : PS) (c : Ctx) : (st.push c).pop = st := rfl

theorem stmtI_nil (hc : BaseCfg cfg) (st : PS) : parseStatementI cfg cfg.stmtI st = baseParseStatement cfg st := by
  rw [hc.stmtI, parseStatementI]

/-- commas in front of every further parameter -/
def cparamToks : List Token → List Token
  | [] => []
  | p :: ps => commaT :: p :: cparamToks ps

theorem paramToks_cons (p : Token) (ps : List Token) : paramToks (p :: ps) = p :: cparamToks ps := by
  induction ps generalizing p with
  | nil => rfl
  | cons q qs ih => simp only [paramToks, cparamToks]; rw [ih]

theorem params_loop (ps : List Token) : ∀ (acc : List Ident) (st : PS) (last closer : Token) (rest : List Token),
    st.toks = last :: (cparamToks ps ++ closer :: rest) → closer.type ≠ .comma →
    paramsLoop acc st = some (acc ++ ps.map identOf, nextK (cparamToks ps).length st) := by
  induction ps with
  | nil =>
    intro acc st last closer rest ht hc
    have ht' : st.toks = last :: closer :: rest := by simpa [cparamToks] using ht
    rw [paramsLoop]
    have : (st.peek.type == TokType.comma) = false := by rw [peek_of_toks ht']; simpa using hc
    simp [this, cparamToks, nextK]
  | cons p ps ih =>
    intro acc st last closer rest ht hc
    have ht' : st.toks = last :: commaT :: p :: (cparamToks ps ++ closer :: rest) := by simpa [cparamToks] using ht
    rw [paramsLoop]
    have hp : (st.peek.type == TokType.comma) = true := by rw [peek_of_toks ht']; rfl
    simp only [hp, if_true]
    have h2 : st.next.next.toks = p :: (cparamToks ps ++ closer :: rest) := next_toks_cons (next_toks_cons ht')
    rw [ih _ _ p closer rest h2 hc]
    rw [identOfCur_of_toks h2]
    simp only [List.map_cons, List.append_assoc, List.singleton_append, cparamToks, List.length_cons]
    rfl

end Xjs.RA
