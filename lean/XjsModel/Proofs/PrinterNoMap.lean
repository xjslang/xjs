import XjsModel.Proofs.Writer
/-
  Mapper independence of the printers: forgetting the mapper commutes with every `WriteTo`, so two writers that
  differ only in their mapper stay so.
-/
namespace Xjs

/-- equal up to the mapper -/
def Sim (a b : CW) : Prop := a.noMap = b.noMap

theorem sim_refl (a : CW) : Sim a a := rfl

theorem sim_of_commute {f : CW → CW} (hf : ∀ cw, (f cw).noMap = f cw.noMap) {a b : CW} (h : Sim a b) : Sim (f a) (f b) := by
  unfold Sim at *; rw [hf, hf, h]

theorem sim_addNamedMapping {a b : CW} (x y : Nat) (n : Bytes) (h : Sim a b) :
    Sim (a.addNamedMapping x y n) (b.addNamedMapping x y n) := by
  unfold Sim at *; rw [noMap_addNamedMapping, noMap_addNamedMapping, h]

theorem noMap_addMapping_comm (cw : CW) (a b : Nat) : (cw.addMapping a b).noMap = cw.noMap.addMapping a b := by
  rw [noMap_addMapping, addMapping_noMap]
theorem noMap_head_comm (cw : CW) (t : Token) : (cw.head t).noMap = cw.noMap.head t := by
  rw [noMap_head, head_noMap]

-- Below, `noMap` is pushed inward through one operation after the other. The lemmas that drop a mapping operation
-- next to `noMap` would leave the two sides in different shapes: they give way to the commuting forms.
attribute [-simp] noMap_head head_noMap noMap_addMapping addMapping_noMap
attribute [local simp] noMap_head_comm noMap_addMapping_comm

mutual
  theorem noMap_writeExpr : ∀ (e : Expr) (cw : CW), (writeExpr e cw).noMap = writeExpr e cw.noMap
    | .none, cw => by simp [writeExpr]
    | .ident id, cw => by simp [writeExpr]
    | .int tok, cw => by simp [writeExpr]
    | .float tok, cw => by simp [writeExpr]
    | .str tok v, cw => by simp [writeExpr]
    | .raw tok v, cw => by simp [writeExpr]
    | .bool tok b, cw => by simp [writeExpr]
    | .null tok, cw => by simp [writeExpr]
    | .letE tok name v, cw => by simp [writeExpr, apply_ite CW.noMap, noMap_writeExpr v]
    | .binary tok l op r, cw => by simp [writeExpr, apply_ite CW.noMap, noMap_writeExpr l, noMap_writeExpr r]
    | .unary tok op r, cw => by simp [writeExpr, apply_ite CW.noMap, noMap_writeExpr r]
    | .postfix tok l op, cw => by simp [writeExpr, apply_ite CW.noMap, noMap_writeExpr l]
    | .group tok e rp, cw => by simp [writeExpr, noMap_writeExpr e]
    | .call tok fn args, cw => by simp [writeExpr, noMap_writeExpr fn, noMap_writeExprList args]
    | .member tok obj prop c, cw => by simp [writeExpr, apply_ite CW.noMap, noMap_writeExpr obj, noMap_writeExpr prop]
    | .assign tok l v, cw => by simp [writeExpr, noMap_writeExpr l, noMap_writeExpr v]
    | .compound tok l op v, cw => by simp [writeExpr, noMap_writeExpr l, noMap_writeExpr v]
    | .func tok name params body, cw => by cases name <;> simp [writeExpr, noMap_writeParams, noMap_writeStmt body]
    | .array tok elems rb, cw => by simp [writeExpr, noMap_writeExprList elems]
    | .object tok props rb, cw => by simp [writeExpr, noMap_writeProps props]
  theorem noMap_writeExprList : ∀ (es : ExprList) (first : Bool) (cw : CW),
      (writeExprList es first cw).noMap = writeExprList es first cw.noMap
    | .nil, _, cw => by simp [writeExprList]
    | .cons e rest, first, cw => by simp [writeExprList, noMap_writeExpr e, noMap_writeExprList rest]
  theorem noMap_writeProps : ∀ (ps : PropList) (first : Bool) (cw : CW),
      (writeProps ps first cw).noMap = writeProps ps first cw.noMap
    | .nil, _, cw => by simp [writeProps]
    | .cons k v rest, first, cw => by simp [writeProps, noMap_writeExpr k, noMap_writeExpr v, noMap_writeProps rest]
  theorem noMap_writeStmt : ∀ (s : Stmt) (cw : CW), (writeStmt s cw).noMap = writeStmt s cw.noMap
    | .none, cw => by simp [writeStmt]
    | .letS tok name v, cw => by simp [writeStmt, apply_ite CW.noMap, noMap_writeExpr v]
    | .ret tok v, cw => by simp [writeStmt, apply_ite CW.noMap, noMap_writeExpr v]
    | .exprS e, cw => by simp [writeStmt, apply_ite CW.noMap, noMap_writeExpr e]
    | .funcD tok name params body, cw => by simp [writeStmt, noMap_writeParams, noMap_writeStmt body]
    | .block tok stmts rb, cw => by simp [writeStmt, noMap_writeBlockStmts stmts]
    | .ifS tok c a b, cw => by simp [writeStmt, apply_ite CW.noMap, noMap_writeExpr c, noMap_writeStmt a, noMap_writeStmt b]
    | .whileS tok c b, cw => by simp [writeStmt, noMap_writeExpr c, noMap_writeStmt b]
    | .forS tok i c u b, cw => by
      simp [writeStmt, apply_ite CW.noMap, noMap_writeExpr i, noMap_writeExpr c, noMap_writeExpr u, noMap_writeStmt b]
  theorem noMap_writeBlockStmts : ∀ (ss : StmtList) (first : Bool) (cw : CW),
      (writeBlockStmts ss first cw).noMap = writeBlockStmts ss first cw.noMap
    | .nil, _, cw => by simp [writeBlockStmts]
    | .cons s rest, first, cw => by simp [writeBlockStmts, noMap_writeStmt s, noMap_writeBlockStmts rest]
  theorem noMap_writeProgramStmts : ∀ (ss : StmtList) (first : Bool) (cw : CW),
      (writeProgramStmts ss first cw).noMap = writeProgramStmts ss first cw.noMap
    | .nil, _, cw => by simp [writeProgramStmts]
    | .cons s rest, first, cw => by simp [writeProgramStmts, noMap_writeStmt s, noMap_writeProgramStmts rest]
end

theorem sim_writeExpr : ∀ (e : Expr) (a b : CW), Sim a b → Sim (writeExpr e a) (writeExpr e b) :=
  fun e _ _ h => sim_of_commute (noMap_writeExpr e) h
theorem sim_writeExprList : ∀ (es : ExprList) (first : Bool) (a b : CW), Sim a b →
      Sim (writeExprList es first a) (writeExprList es first b) :=
  fun es first _ _ h => sim_of_commute (noMap_writeExprList es first) h
theorem sim_writeProps : ∀ (ps : PropList) (first : Bool) (a b : CW), Sim a b →
      Sim (writeProps ps first a) (writeProps ps first b) :=
  fun ps first _ _ h => sim_of_commute (noMap_writeProps ps first) h
theorem sim_writeStmt : ∀ (s : Stmt) (a b : CW), Sim a b → Sim (writeStmt s a) (writeStmt s b) :=
  fun s _ _ h => sim_of_commute (noMap_writeStmt s) h
theorem sim_writeBlockStmts : ∀ (ss : StmtList) (first : Bool) (a b : CW), Sim a b →
      Sim (writeBlockStmts ss first a) (writeBlockStmts ss first b) :=
  fun ss first _ _ h => sim_of_commute (noMap_writeBlockStmts ss first) h
theorem sim_writeProgramStmts : ∀ (ss : StmtList) (first : Bool) (a b : CW), Sim a b →
      Sim (writeProgramStmts ss first a) (writeProgramStmts ss first b) :=
  fun ss first _ _ h => sim_of_commute (noMap_writeProgramStmts ss first) h

end Xjs
