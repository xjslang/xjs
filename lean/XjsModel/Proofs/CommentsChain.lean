import XjsModel.Proofs.ParserPostfixPass
import XjsModel.Proofs.ParserProvPass
import XjsModel.Proofs.LexerTrivia
import XjsModel.Proofs.CommentsHead
/-
  The chain for statement-level comments (C15): lexer (a token with entries and no line break before it is no
  `++`/`--`) + parser (postfix `++`/`--` never follows a line break; the tree's tokens are the input's tokens)
  ⇒ no postfix operator of a lexed-and-parsed tree carries entries ⇒ in every statement list, at any depth, what is
  replayed for a statement begins with the entries of its first token.
-/

namespace Xjs

/-- a token that carries trivia entries although no line break precedes it is no `++` / `--` -/
def Token.quiet (t : Token) : Prop := t.comments ≠ [] → t.nl = false → t.type ≠ .increment ∧ t.type ≠ .decrement

theorem quiet_closed : Closed Token.quiet :=
  ⟨fun h => absurd rfl h, fun h => absurd rfl h, fun _ _ h => absurd rfl h⟩

/-- every token the lexer produces is quiet -/
theorem nextToken_quiet (s : LS) : (nextToken s).1.quiet := fun hc hn =>
  (Tiling.entries_without_line_break s hc hn).2

/-- `++` and `--` are the only postfix operators of the table (true of the built-in table; a registered postfix
    operator is not subject to the restricted production) -/
def PostfixIsUpdate (cfg : PCfg) : Prop :=
  ∀ ty, lookup cfg.infixFns ty = some .postfix → ty = .increment ∨ ty = .decrement

theorem postfix_token_bare {cfg : PCfg} (hpf : PostfixIsUpdate cfg) {tok : Token}
    (h1 : tok.pfOk = true) (h2 : tok.isPostfixOf cfg = true) (h3 : tok.quiet) : tok.comments = [] := by
  have hty := hpf tok.type (by simpa [Token.isPostfixOf] using h2)
  have hnl : tok.nl = false := by
    unfold Token.pfOk at h1
    rcases hty with h | h <;> simpa [h] using h1
  cases hcm : tok.comments with
  | nil => rfl
  | cons c cs =>
    have := h3 (by rw [hcm]; simp) hnl
    rcases hty with h | h
    · exact absurd h this.1
    · exact absurd h this.2

/-- the left spine of a parsed expression carries no trivia on postfix operators -/
theorem Expr.bare_of {cfg : PCfg} (hpf : PostfixIsUpdate cfg) :
    ∀ (e : Expr), e.pfOk cfg = true → e.allT Token.quiet → e.postfixBare = true
  | .binary _ l _ _, h, q => by
    simp only [Expr.pfOk, Bool.and_eq_true] at h; simp only [Expr.allT] at q
    simpa [Expr.postfixBare] using Expr.bare_of hpf l h.1 q.2.1
  | .call _ l _, h, q => by
    simp only [Expr.pfOk, Bool.and_eq_true] at h; simp only [Expr.allT] at q
    simpa [Expr.postfixBare] using Expr.bare_of hpf l h.1 q.2.1
  | .member _ l _ _, h, q => by
    simp only [Expr.pfOk, Bool.and_eq_true] at h; simp only [Expr.allT] at q
    simpa [Expr.postfixBare] using Expr.bare_of hpf l h.1 q.2.1
  | .assign _ l _, h, q => by
    simp only [Expr.pfOk, Bool.and_eq_true] at h; simp only [Expr.allT] at q
    simpa [Expr.postfixBare] using Expr.bare_of hpf l h.1 q.2.1
  | .compound _ l _ _, h, q => by
    simp only [Expr.pfOk, Bool.and_eq_true] at h; simp only [Expr.allT] at q
    simpa [Expr.postfixBare] using Expr.bare_of hpf l h.1 q.2.1
  | .postfix tok l _, h, q => by
    simp only [Expr.pfOk, Bool.and_eq_true] at h; simp only [Expr.allT] at q
    simp only [Expr.postfixBare, Bool.and_eq_true, List.isEmpty_iff]
    exact ⟨postfix_token_bare hpf h.1.1 h.1.2 q.1, Expr.bare_of hpf l h.2 q.2⟩
  | .none, _, _ | .ident _, _, _ | .int _, _, _ | .float _, _, _ | .str _ _, _, _ | .raw _ _, _, _ | .bool _ _, _, _
  | .null _, _, _ | .letE _ _ _, _, _ | .unary _ _ _, _, _ | .group _ _ _, _, _ | .func _ _ _ _, _, _
  | .array _ _ _, _, _ | .object _ _ _, _, _ => by simp [Expr.postfixBare]

theorem Stmt.bare_of {cfg : PCfg} (hpf : PostfixIsUpdate cfg) (s : Stmt) (h : s.pfOk cfg = true) (q : s.allT Token.quiet) :
    s.postfixBare = true := by
  cases s with
  | exprS e => simpa [Stmt.postfixBare] using Expr.bare_of hpf e (by simpa [Stmt.pfOk] using h) (by simpa [Stmt.allT] using q)
  | _ => simp [Stmt.postfixBare]

mutual
  /-- in every statement list of the tree, at any depth, what is replayed for a statement starts with the entries of
      its first token -/
  def Expr.headsFirst : Expr → Prop
    | .none | .ident _ | .int _ | .float _ | .str _ _ | .raw _ _ | .bool _ _ | .null _ => True
    | .letE _ _ v => v.headsFirst
    | .binary _ l _ r => l.headsFirst ∧ r.headsFirst
    | .unary _ _ r => r.headsFirst
    | .postfix _ l _ => l.headsFirst
    | .group _ e _ => e.headsFirst
    | .call _ f args => f.headsFirst ∧ args.headsFirst
    | .member _ o p _ => o.headsFirst ∧ p.headsFirst
    | .assign _ l v => l.headsFirst ∧ v.headsFirst
    | .compound _ l _ v => l.headsFirst ∧ v.headsFirst
    | .func _ _ _ body => body.headsFirst
    | .array _ es _ => es.headsFirst
    | .object _ ps _ => ps.headsFirst
  def Stmt.headsFirst : Stmt → Prop
    | .none => True
    | .letS _ _ v => v.headsFirst
    | .ret _ v => v.headsFirst
    | .exprS e => e.headsFirst
    | .funcD _ _ _ body => body.headsFirst
    | .block _ ss _ => ss.headsFirst
    | .ifS _ c t e => c.headsFirst ∧ t.headsFirst ∧ e.headsFirst
    | .whileS _ c b => c.headsFirst ∧ b.headsFirst
    | .forS _ i c u b => i.headsFirst ∧ c.headsFirst ∧ u.headsFirst ∧ b.headsFirst
  def ExprList.headsFirst : ExprList → Prop
    | .nil => True
    | .cons e t => e.headsFirst ∧ t.headsFirst
  def StmtList.headsFirst : StmtList → Prop
    | .nil => True
    | .cons s t => (∃ rest, s.cmts = headCmts s.firstTok ++ rest) ∧ s.headsFirst ∧ t.headsFirst
  def PropList.headsFirst : PropList → Prop
    | .nil => True
    | .cons k v t => k.headsFirst ∧ v.headsFirst ∧ t.headsFirst
end

mutual
  theorem Expr.headsFirst_of {cfg : PCfg} (hpf : PostfixIsUpdate cfg) :
      ∀ (e : Expr), e.pfOk cfg = true → e.allT Token.quiet → e.headsFirst
    | .none, _, _ | .ident _, _, _ | .int _, _, _ | .float _, _, _ | .str _ _, _, _ | .raw _ _, _, _ | .bool _ _, _, _
    | .null _, _, _ => by simp [Expr.headsFirst]
    | .letE _ _ v, h, q => by
      simp only [Expr.pfOk] at h; simp only [Expr.allT] at q
      simpa [Expr.headsFirst] using Expr.headsFirst_of hpf v h q.2.2
    | .binary _ l _ r, h, q => by
      simp only [Expr.pfOk, Bool.and_eq_true] at h; simp only [Expr.allT] at q
      exact ⟨Expr.headsFirst_of hpf l h.1 q.2.1, Expr.headsFirst_of hpf r h.2 q.2.2⟩
    | .unary _ _ r, h, q => by
      simp only [Expr.pfOk] at h; simp only [Expr.allT] at q
      simpa [Expr.headsFirst] using Expr.headsFirst_of hpf r h q.2
    | .postfix _ l _, h, q => by
      simp only [Expr.pfOk, Bool.and_eq_true] at h; simp only [Expr.allT] at q
      simpa [Expr.headsFirst] using Expr.headsFirst_of hpf l h.2 q.2
    | .group _ e _, h, q => by
      simp only [Expr.pfOk] at h; simp only [Expr.allT] at q
      simpa [Expr.headsFirst] using Expr.headsFirst_of hpf e h q.2.1
    | .call _ f args, h, q => by
      simp only [Expr.pfOk, Bool.and_eq_true] at h; simp only [Expr.allT] at q
      exact ⟨Expr.headsFirst_of hpf f h.1 q.2.1, ExprList.headsFirst_of hpf args h.2 q.2.2⟩
    | .member _ o p _, h, q => by
      simp only [Expr.pfOk, Bool.and_eq_true] at h; simp only [Expr.allT] at q
      exact ⟨Expr.headsFirst_of hpf o h.1 q.2.1, Expr.headsFirst_of hpf p h.2 q.2.2⟩
    | .assign _ l v, h, q => by
      simp only [Expr.pfOk, Bool.and_eq_true] at h; simp only [Expr.allT] at q
      exact ⟨Expr.headsFirst_of hpf l h.1 q.2.1, Expr.headsFirst_of hpf v h.2 q.2.2⟩
    | .compound _ l _ v, h, q => by
      simp only [Expr.pfOk, Bool.and_eq_true] at h; simp only [Expr.allT] at q
      exact ⟨Expr.headsFirst_of hpf l h.1 q.2.1, Expr.headsFirst_of hpf v h.2 q.2.2⟩
    | .func _ _ _ body, h, q => by
      simp only [Expr.pfOk] at h; simp only [Expr.allT] at q
      simpa [Expr.headsFirst] using Stmt.headsFirst_of hpf body h q.2.2.2
    | .array _ es _, h, q => by
      simp only [Expr.pfOk] at h; simp only [Expr.allT] at q
      simpa [Expr.headsFirst] using ExprList.headsFirst_of hpf es h q.2.1
    | .object _ ps _, h, q => by
      simp only [Expr.pfOk] at h; simp only [Expr.allT] at q
      simpa [Expr.headsFirst] using PropList.headsFirst_of hpf ps h q.2.1
  theorem Stmt.headsFirst_of {cfg : PCfg} (hpf : PostfixIsUpdate cfg) :
      ∀ (s : Stmt), s.pfOk cfg = true → s.allT Token.quiet → s.headsFirst
    | .none, _, _ => by simp [Stmt.headsFirst]
    | .letS _ _ v, h, q => by
      simp only [Stmt.pfOk] at h; simp only [Stmt.allT] at q
      simpa [Stmt.headsFirst] using Expr.headsFirst_of hpf v h q.2.2
    | .ret _ v, h, q => by
      simp only [Stmt.pfOk] at h; simp only [Stmt.allT] at q
      simpa [Stmt.headsFirst] using Expr.headsFirst_of hpf v h q.2
    | .exprS e, h, q => by
      simp only [Stmt.pfOk] at h; simp only [Stmt.allT] at q
      simpa [Stmt.headsFirst] using Expr.headsFirst_of hpf e h q
    | .funcD _ _ _ body, h, q => by
      simp only [Stmt.pfOk] at h; simp only [Stmt.allT] at q
      simpa [Stmt.headsFirst] using Stmt.headsFirst_of hpf body h q.2.2.2
    | .block _ ss _, h, q => by
      simp only [Stmt.pfOk] at h; simp only [Stmt.allT] at q
      simpa [Stmt.headsFirst] using StmtList.headsFirst_of hpf ss h q.2.1
    | .ifS _ c t e, h, q => by
      simp only [Stmt.pfOk, Bool.and_eq_true] at h; simp only [Stmt.allT] at q
      exact ⟨Expr.headsFirst_of hpf c h.1.1 q.2.1, Stmt.headsFirst_of hpf t h.1.2 q.2.2.1, Stmt.headsFirst_of hpf e h.2 q.2.2.2⟩
    | .whileS _ c b, h, q => by
      simp only [Stmt.pfOk, Bool.and_eq_true] at h; simp only [Stmt.allT] at q
      exact ⟨Expr.headsFirst_of hpf c h.1 q.2.1, Stmt.headsFirst_of hpf b h.2 q.2.2⟩
    | .forS _ i c u b, h, q => by
      simp only [Stmt.pfOk, Bool.and_eq_true] at h; simp only [Stmt.allT] at q
      exact ⟨Expr.headsFirst_of hpf i h.1.1.1 q.2.1, Expr.headsFirst_of hpf c h.1.1.2 q.2.2.1,
        Expr.headsFirst_of hpf u h.1.2 q.2.2.2.1, Stmt.headsFirst_of hpf b h.2 q.2.2.2.2⟩
  theorem ExprList.headsFirst_of {cfg : PCfg} (hpf : PostfixIsUpdate cfg) :
      ∀ (es : ExprList), es.pfOk cfg = true → es.allT Token.quiet → es.headsFirst
    | .nil, _, _ => by simp [ExprList.headsFirst]
    | .cons e t, h, q => by
      simp only [ExprList.pfOk, Bool.and_eq_true] at h; simp only [ExprList.allT] at q
      exact ⟨Expr.headsFirst_of hpf e h.1 q.1, ExprList.headsFirst_of hpf t h.2 q.2⟩
  theorem StmtList.headsFirst_of {cfg : PCfg} (hpf : PostfixIsUpdate cfg) :
      ∀ (ss : StmtList), ss.pfOk cfg = true → ss.allT Token.quiet → ss.headsFirst
    | .nil, _, _ => by simp [StmtList.headsFirst]
    | .cons s t, h, q => by
      simp only [StmtList.pfOk, Bool.and_eq_true] at h; simp only [StmtList.allT] at q
      exact ⟨s.cmts_head (Stmt.bare_of hpf s h.1 q.1), Stmt.headsFirst_of hpf s h.1 q.1, StmtList.headsFirst_of hpf t h.2 q.2⟩
  theorem PropList.headsFirst_of {cfg : PCfg} (hpf : PostfixIsUpdate cfg) :
      ∀ (ps : PropList), ps.pfOk cfg = true → ps.allT Token.quiet → ps.headsFirst
    | .nil, _, _ => by simp [PropList.headsFirst]
    | .cons k v t, h, q => by
      simp only [PropList.pfOk, Bool.and_eq_true] at h; simp only [PropList.allT] at q
      exact ⟨Expr.headsFirst_of hpf k h.1.1 q.1, Expr.headsFirst_of hpf v h.1.2 q.2.1, PropList.headsFirst_of hpf t h.2 q.2.2⟩
end

end Xjs
