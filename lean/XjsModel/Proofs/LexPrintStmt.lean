import XjsModel.Proofs.LexPrintExpr
/-
  Lexing what the printer spells: expression lists, object properties, parameter lists, calls, array / object /
  function literals and every statement kind — one lemma per printer, with the sub-printers' facts as hypotheses.
-/
namespace Xjs.LP
open Xjs Xjs.RA

/-- a keyword written together with the blank behind it (`"let "`, `"function "`), optionally with one in front (`" else "`) -/
theorem WInv.kwSpace {cw cw' : CW} {ks fc} (h : WInv cw ks fc) (ty : TokType) (hc : canon ty ≠ []) (lead : Bool)
    (hw : ∀ r, fol ty (32 :: r) = true)
    (hf : Fields cw cw' ((if lead then [32] else []) ++ canon ty ++ [32]))
    (hpre : ∀ r, fc ((if lead then [32] else []) ++ canon ty ++ r) = true) : WInv cw' (ks ++ [(ty, canon ty)]) anyFol := by
  refine ⟨hf.1.trans h.compact, hf.2.1, fun r _ => ?_, fun _ _ _ hx => by cases hx⟩
  have hne : ty ≠ .eof := by intro e; subst e; exact hc rfl
  have step : LexTo (canon ty ++ 32 :: r) [(ty, canon ty)] r :=
    (LexTo.tok (fun s hs => fixed_lexes ty hc (32 :: r) (hw r) s hs) hne (LexTo.refl _)).blank
  rw [hf.2.2]
  cases lead
  · have := (h.lex (canon ty ++ 32 :: r) (by simpa using hpre (32 :: r))).append step
    simpa using this
  · have := (h.lex (32 :: (canon ty ++ 32 :: r)) (by simpa using hpre (32 :: r))).append (LexTo.lead step)
    simpa using this

theorem sb_let : strBytes "let " = canon .let_ ++ [32] := by decide +kernel
theorem sb_function : strBytes "function" = canon .function := by decide +kernel
theorem sb_function_sp : strBytes "function " = canon .function ++ [32] := by decide +kernel
theorem sb_return : strBytes "return" = canon .return_ := by decide +kernel
theorem sb_if : strBytes "if" = canon .if_ := by decide +kernel
theorem sb_while : strBytes "while" = canon .while_ := by decide +kernel
theorem sb_for : strBytes "for" = canon .for_ := by decide +kernel
theorem sb_else : strBytes " else " = [32] ++ canon .else_ ++ [32] := by decide +kernel

/-! ## lists -/

def LLexC (l : ExprList) (toks : List Token) : Prop :=
  ∀ {cw : CW} {ks : List Key} {fc : Bytes → Bool}, WInv cw ks fc → EndOK fc →
    ∃ fc', WInv (writeExprList l false cw) (ks ++ toks.map keyOf) fc' ∧ EndOK fc'
def LLex (l : ExprList) (toks : List Token) : Prop :=
  ∀ {cw : CW} {ks : List Key} {fc : Bytes → Bool}, WInv cw ks fc → StartOK fc → CloseOK fc →
    ∃ fc', WInv (writeExprList l true cw) (ks ++ toks.map keyOf) fc' ∧ CloseOK fc'

theorem comma_step {cw : CW} {ks fc} (h : WInv cw ks fc) (he : EndOK fc) :
    WInv (cw.sepIf false) (ks ++ [keyOf commaT]) (fol .comma) :=
  (h.delim he commaT rfl).writeSpace

/-- one more item of a comma-separated list (`item`: an expression, or a `key: value` pair), then the rest of the list -/
theorem item_rest {item rest : CW → CW} {itoks rtoks : List Token}
    (hI : ∀ {cw : CW} {ks : List Key} {fc : Bytes → Bool}, WInv cw ks fc → StartOK fc →
      ∃ fc', WInv (item cw) (ks ++ itoks.map keyOf) fc' ∧ EndOK fc')
    (hR : ∀ {cw : CW} {ks : List Key} {fc : Bytes → Bool}, WInv cw ks fc → EndOK fc →
      ∃ fc', WInv (rest cw) (ks ++ rtoks.map keyOf) fc' ∧ EndOK fc') :
    (∀ {cw : CW} {ks : List Key} {fc : Bytes → Bool}, WInv cw ks fc → EndOK fc →
      ∃ fc', WInv (rest (item (cw.sepIf false))) (ks ++ (commaT :: itoks ++ rtoks).map keyOf) fc' ∧ EndOK fc') ∧
    (∀ {cw : CW} {ks : List Key} {fc : Bytes → Bool}, WInv cw ks fc → StartOK fc →
      ∃ fc', WInv (rest (item (cw.sepIf true))) (ks ++ (itoks ++ rtoks).map keyOf) fc' ∧ CloseOK fc') := by
  refine ⟨fun h he => ?_, fun h hs => ?_⟩
  · obtain ⟨fc1, h1, he1⟩ := hI (comma_step h he) (fol_start .comma (by decide) (by decide))
    obtain ⟨fc2, h2, he2⟩ := hR h1 he1
    exact ⟨fc2, h2.regroup, he2⟩
  · obtain ⟨fc1, h1, he1⟩ := hI h hs
    obtain ⟨fc2, h2, he2⟩ := hR h1 he1
    exact ⟨fc2, h2.regroup, he2.close⟩

theorem llexC_nil : LLexC .nil [] := fun h he => ⟨_, by simpa [writeExprList] using h, he⟩
theorem llexC_cons (e : Expr) (rest : ExprList) (etoks rtoks : List Token) (hE : ELex e etoks) (hR : LLexC rest rtoks) :
    LLexC (.cons e rest) (commaT :: etoks ++ rtoks) :=
  fun h he => (item_rest hE hR).1 h he

theorem llex_nil : LLex .nil [] := fun h _ hc => ⟨_, by simpa [writeExprList] using h, hc⟩
theorem llex_cons (e : Expr) (rest : ExprList) (etoks rtoks : List Token) (hE : ELex e etoks) (hR : LLexC rest rtoks) :
    LLex (.cons e rest) (etoks ++ rtoks) :=
  fun h hs _ => (item_rest hE hR).2 h hs

/-- `f(args)` -/
theorem call_lex (t : Token) (hty : t.type = .lparen) (ht : tokOk t) (F : Expr) (args : ExprList) (ftoks atoks : List Token)
    (hF : ELex F ftoks) (hA : LLex args atoks) : ELex (.call t F args) (ftoks ++ t :: atoks ++ [rpT]) := by
  intro cw ks fc h hs
  simp only [writeExpr]
  obtain ⟨fc1, h1, he1⟩ := hF h hs
  have h2 := ((h1.head t).delim he1 t (keyOf_fixed t ht .lparen hty (by decide))).increaseIndent
  obtain ⟨fc3, h3, hc3⟩ := hA h2 (fol_start .lparen (by decide) (by decide)) allOK_lparen.close
  exact ⟨_, (h3.decreaseIndent.rune rpT rfl (fun r => hc3 41 r (Or.inl rfl))).regroup, allOK_rparen.endOK⟩

/-- `[elems]` -/
theorem arr_lex (t rb : Token) (hty : t.type = .lbracket) (ht : tokOk t) (es : ExprList) (etoks : List Token)
    (hA : LLex es etoks) : ELex (.array t es rb) (t :: etoks ++ [rbT]) := by
  intro cw ks fc h hs
  simp only [writeExpr]
  have h2 := ((h.head t).rune t (keyOf_fixed t ht .lbracket hty (by decide)) (pre_start hs 91 [] (by decide))).increaseIndent
  obtain ⟨fc3, h3, hc3⟩ := hA h2 (fol_start .lbracket (by decide) (by decide)) allOK_lbracket.close
  exact ⟨_, (((h3.leadingComments rb.comments).decreaseIndent).rune rbT rfl (fun r => hc3 93 r (Or.inr (Or.inl rfl)))).regroup,
    allOK_rbracket.endOK⟩

/-! ## object literals -/

def PLexC (l : PropList) (toks : List Token) : Prop :=
  ∀ {cw : CW} {ks : List Key} {fc : Bytes → Bool}, WInv cw ks fc → EndOK fc →
    ∃ fc', WInv (writeProps l false cw) (ks ++ toks.map keyOf) fc' ∧ EndOK fc'
def PLex (l : PropList) (toks : List Token) : Prop :=
  ∀ {cw : CW} {ks : List Key} {fc : Bytes → Bool}, WInv cw ks fc → StartOK fc → CloseOK fc →
    ∃ fc', WInv (writeProps l true cw) (ks ++ toks.map keyOf) fc' ∧ CloseOK fc'

/-- `key: value` -/
theorem pair_lex (k v : Expr) (ktoks vtoks : List Token) (hK : ELex k ktoks) (hV : ELex v vtoks)
    {cw : CW} {ks fc} (h : WInv cw ks fc) (hs : StartOK fc) :
    ∃ fc', WInv (writeExpr v ((writeExpr k cw).writeRune 58).writeSpace) (ks ++ (ktoks ++ colonT :: vtoks).map keyOf) fc' ∧ EndOK fc' := by
  obtain ⟨fc1, h1, he1⟩ := hK h hs
  obtain ⟨fc3, h3, he3⟩ := hV (h1.delim he1 colonT rfl).writeSpace (fol_start .colon (by decide) (by decide))
  exact ⟨fc3, h3.regroup, he3⟩

theorem plexC_nil : PLexC .nil [] := fun h he => ⟨_, by simpa [writeProps] using h, he⟩
theorem plexC_cons (k v : Expr) (rest : PropList) (ktoks vtoks rtoks : List Token) (hK : ELex k ktoks) (hV : ELex v vtoks)
    (hR : PLexC rest rtoks) : PLexC (.cons k v rest) (commaT :: ktoks ++ colonT :: vtoks ++ rtoks) :=
  fun h he => by
    simpa only [writeProps, List.append_assoc, List.cons_append] using (item_rest (pair_lex k v ktoks vtoks hK hV) hR).1 h he

theorem plex_nil : PLex .nil [] := fun h _ hc => ⟨_, by simpa [writeProps] using h, hc⟩
theorem plex_cons (k v : Expr) (rest : PropList) (ktoks vtoks rtoks : List Token) (hK : ELex k ktoks) (hV : ELex v vtoks)
    (hR : PLexC rest rtoks) : PLex (.cons k v rest) (ktoks ++ colonT :: vtoks ++ rtoks) :=
  fun h hs _ => by
    simpa only [writeProps, List.append_assoc, List.cons_append] using (item_rest (pair_lex k v ktoks vtoks hK hV) hR).2 h hs

/-- `{props}` -/
theorem obj_lex (t rb : Token) (hty : t.type = .lbrace) (ht : tokOk t) (ps : PropList) (ptoks : List Token)
    (hP : PLex ps ptoks) : ELex (.object t ps rb) (t :: ptoks ++ [rbrT]) := by
  intro cw ks fc h hs
  simp only [writeExpr]
  have h2 := ((h.head t).rune t (keyOf_fixed t ht .lbrace hty (by decide)) (pre_start hs 123 [] (by decide))).increaseIndent
  obtain ⟨fc3, h3, hc3⟩ := hP h2 (fol_start .lbrace (by decide) (by decide)) allOK_lbrace.close
  exact ⟨_, (((h3.leadingComments rb.comments).decreaseIndent).rune rbrT rfl (fun r => hc3 125 r (Or.inr (Or.inr rfl)))).regroup,
    allOK_rbrace.endOK⟩

/-! ## parameter lists -/

def PrLexC (ps : List Token) : Prop :=
  ∀ {cw : CW} {ks : List Key} {fc : Bytes → Bool}, WInv cw ks fc → EndOK fc →
    ∃ fc', WInv (writeParams (ps.map identOf) false cw) (ks ++ (ps.flatMap (fun p => [commaT, p])).map keyOf) fc' ∧ EndOK fc'

theorem params_lexC : ∀ (ps : List Token), (∀ p ∈ ps, p.type = .ident ∧ tokOk p) → PrLexC ps
  | [], _ => fun h he => ⟨_, by simpa [writeParams] using h, he⟩
  | p :: ps, hp => by
    intro h he
    simp only [List.map_cons, writeParams]
    have h1 := name_lex p (hp p (by simp)).1 (hp p (by simp)).2 (comma_step h he) ((fol_start .comma (by decide) (by decide)).d true)
    obtain ⟨fc2, h2, he2⟩ := params_lexC ps (fun q hq => hp q (by simp [hq])) h1 endOK_word
    exact ⟨fc2, h2.regroup (by simp only [List.flatMap_cons, List.map_cons, List.append_assoc, List.cons_append, List.nil_append]), he2⟩

theorem paramToks_eq : ∀ (p : Token) (ps : List Token), paramToks (p :: ps) = p :: ps.flatMap (fun q => [commaT, q])
  | _, [] => rfl
  | p, q :: ps => by simp [paramToks, paramToks_eq q ps]

/-- `(a, b, c)` of a function: from `(` to `)` -/
theorem params_lex (ps : List Token) (hp : ∀ p ∈ ps, p.type = .ident ∧ tokOk p) {cw : CW} {ks fc} (h : WInv cw ks fc)
    (hpre : ∀ r, fc (40 :: r) = true) :
    WInv (((writeParams (ps.map identOf) true (cw.writeRune 40)).writeRune 41).writeSpace)
      (ks ++ (lpT :: paramToks ps ++ [rpT]).map keyOf) (fol .rparen) := by
  have h1 : WInv (cw.writeRune 40) (ks ++ [keyOf lpT]) (fol .lparen) := h.rune lpT rfl hpre
  have fin : ∃ fc2, WInv (writeParams (ps.map identOf) true (cw.writeRune 40)) (ks ++ [keyOf lpT] ++ (paramToks ps).map keyOf) fc2 ∧
      CloseOK fc2 := by
    cases ps with
    | nil => exact ⟨_, by simpa [writeParams, paramToks] using h1, allOK_lparen.close⟩
    | cons p ps =>
      simp only [List.map_cons, writeParams, CW.sepIf, if_true]
      have h2 := name_lex p (hp p (by simp)).1 (hp p (by simp)).2 h1 ((fol_start .lparen (by decide) (by decide)).d true)
      obtain ⟨fc3, h3, he3⟩ := params_lexC ps (fun q hq => hp q (by simp [hq])) h2 endOK_word
      rw [paramToks_eq]
      exact ⟨fc3, h3.regroup, he3.close⟩
  obtain ⟨fc2, h2, hc2⟩ := fin
  exact ((h2.rune rpT rfl (fun r => hc2 41 r (Or.inl rfl))).writeSpace).regroup

/-! ## statements -/

def SLex (s : Stmt) (toks : List Token) : Prop :=
  ∀ {cw : CW} {ks : List Key} {fc : Bytes → Bool}, WInv cw ks fc → StartOK fc →
    ∃ fc', WInv (writeStmt s cw) (ks ++ toks.map keyOf) fc' ∧ AllOK fc'
def BLex (l : StmtList) (toks : List Token) : Prop :=
  ∀ (first : Bool) {cw : CW} {ks : List Key} {fc : Bytes → Bool}, WInv cw ks fc → AllOK fc →
    ∃ fc', WInv (writeBlockStmts l first cw) (ks ++ toks.map keyOf) fc' ∧ AllOK fc'
def GLex (l : StmtList) (toks : List Token) : Prop :=
  ∀ (first : Bool) {cw : CW} {ks : List Key} {fc : Bytes → Bool}, WInv cw ks fc → AllOK fc →
    ∃ fc', WInv (writeProgramStmts l first cw) (ks ++ toks.map keyOf) fc' ∧ AllOK fc'
/-- an optional expression (clauses of `for`) -/
def OLex (e : Expr) (toks : List Token) : Prop :=
  ∀ {cw : CW} {ks : List Key} {fc : Bytes → Bool}, WInv cw ks fc → AllOK fc →
    ∃ fc', WInv (if e.isNone = true then cw else writeExpr e cw) (ks ++ toks.map keyOf) fc' ∧ EndOK fc'

theorem semi_step {cw : CW} {ks fc} (h : WInv cw ks fc) (he : EndOK fc) :
    WInv cw.writeSemi (ks ++ [keyOf semiT]) (fol .semicolon) := by
  have : cw.writeSemi = cw.writeRune 59 := by unfold CW.writeSemi; simp [h.compact]
  rw [this]
  exact h.delim he semiT rfl

/-- a statement that is some text closed by a semicolon -/
theorem semi_close {toks : List Token} {cw : CW} {ks : List Key} {fc1 : Bytes → Bool}
    (h1 : WInv cw (ks ++ toks.map keyOf) fc1) (he1 : EndOK fc1) :
    ∃ fc', WInv cw.writeSemi (ks ++ (toks ++ [semiT]).map keyOf) fc' ∧ AllOK fc' :=
  ⟨_, (semi_step h1 he1).regroup, allOK_semi⟩

theorem exprS_lex (e : Expr) (toks : List Token) (hne : e.isNone = false) (hE : ELex e toks) : SLex (.exprS e) (toks ++ [semiT]) := by
  intro cw ks fc h hs
  simp only [writeStmt, hne, Bool.false_eq_true, if_false]
  obtain ⟨fc1, h1, he1⟩ := hE h hs
  exact semi_close h1 he1

/-- `{ statements }` -/
theorem block_lex (lb rb : Token) (klb : keyOf lb = (.lbrace, [123])) (krb : keyOf rb = (.rbrace, [125])) (body : StmtList)
    (btoks : List Token) (hB : BLex body btoks) : SLex (.block lb body rb) (lb :: btoks ++ [rb]) := by
  intro cw ks fc h hs
  simp only [writeStmt]
  have h1 := ((((h.head lb).rune lb klb (pre_start hs 123 [] (by decide))).writeNewline).increaseIndent)
  obtain ⟨fc2, h2, ha2⟩ := hB true h1 allOK_lbrace
  have h3 := ((h2.decreaseIndent.writeNewline).leadingComments rb.comments).writeIndent
  exact ⟨_, (h3.rune rb krb (fun r => ha2 _)).regroup, allOK_rbrace⟩

/-- `let name` / `let name = v` as an expression (first clause of `for`) -/
theorem letE_lex (t name : Token) (hty : t.type = .let_) (ht : tokOk t) (hnty : name.type = .ident) (hn : tokOk name) :
    ELex (.letE t (identOf name) .none) [t, name] ∧
    ∀ (V : Expr) (vtoks : List Token), V.isNone = false → ELex V vtoks → ELex (.letE t (identOf name) V) (t :: name :: assignT :: vtoks) := by
  have hk : keyOf t = (.let_, canon .let_) := keyOf_fixed t ht .let_ hty (by decide)
  have base : ∀ {cw : CW} {ks fc}, WInv cw ks fc → StartOK fc →
      WInv (writeIdent (identOf name) ((cw.head t).writeString (strBytes "let "))) (ks ++ [keyOf t] ++ [keyOf name]) (fol .ident) := by
    intro cw ks fc h hs
    rw [sb_let, hk]
    have h1 := (h.head t).kwSpace .let_ (by decide) false (fun r => by simp [fol, isWordByte, isLetter, isDigit])
      (by simpa using Fields.str (h.head t).pend (canon .let_ ++ [32])) (fun r => pre_start hs 108 _ (by decide) r)
    exact name_lex name hnty hn h1 (startOK_any.d true)
  refine ⟨fun h hs => ?_, fun V vtoks hvn hV => fun h hs => ?_⟩
  · simp only [writeExpr, Expr.isNone, if_true]
    exact ⟨_, (base h hs).regroup, endOK_word⟩
  · simp only [writeExpr, hvn, Bool.false_eq_true, if_false]
    have h1 := base h hs
    obtain ⟨fc3, h3, he3⟩ := hV ((h1.writeSpace).delim endOK_word assignT rfl).writeSpace (fol_start .assign (by decide) (by decide))
    exact ⟨fc3, h3.regroup, he3⟩

theorem letS_write (tok : Token) (name : Ident) (v : Expr) (cw : CW) :
    writeStmt (.letS tok name v) cw = (writeExpr (.letE tok name v) cw).writeSemi := by
  simp only [writeStmt, writeExpr]

theorem letS_lex (t name : Token) (hty : t.type = .let_) (ht : tokOk t) (hnty : name.type = .ident) (hn : tokOk name)
    (V : Expr) (vtoks : List Token) (hvn : V.isNone = false) (hV : ELex V vtoks) :
    SLex (.letS t (identOf name) V) (t :: name :: assignT :: vtoks ++ [semiT]) := by
  intro cw ks fc h hs
  rw [letS_write]
  obtain ⟨fc1, h1, he1⟩ := (letE_lex t name hty ht hnty hn).2 V vtoks hvn hV h hs
  exact semi_close h1 he1

theorem letN_lex (t name : Token) (hty : t.type = .let_) (ht : tokOk t) (hnty : name.type = .ident) (hn : tokOk name) :
    SLex (.letS t (identOf name) .none) [t, name, semiT] := by
  intro cw ks fc h hs
  rw [letS_write]
  obtain ⟨fc1, h1, he1⟩ := (letE_lex t name hty ht hnty hn).1 h hs
  exact semi_close h1 he1

theorem ret_lex (t : Token) (hty : t.type = .return_) (ht : tokOk t) :
    SLex (.ret t .none) [t, semiT] ∧
    ∀ (V : Expr) (vtoks : List Token), V.isNone = false → ELex V vtoks → SLex (.ret t V) (t :: vtoks ++ [semiT]) := by
  have kw : ∀ {cw : CW} {ks fc}, WInv cw ks fc → StartOK fc →
      WInv ((cw.head t).writeString (strBytes "return")) (ks ++ [t].map keyOf) (fol .return_) :=
    fun h hs => kw_step h (hs.d true) t .return_ hty ht (by decide) (by decide) _ sb_return
  refine ⟨fun h hs => ?_, fun V vtoks hvn hV => fun h hs => ?_⟩
  · simp only [writeStmt, Expr.isNone, if_true]
    exact semi_close (kw h hs) (endOK_kw .return_ rfl)
  · simp only [writeStmt, hvn, Bool.false_eq_true, if_false]
    obtain ⟨fc3, h3, he3⟩ := hV ((kw h hs).space (fun r => by simp [fol, isWordByte, isLetter, isDigit])) startOK_any
    exact semi_close (toks := t :: vtoks) h3.regroup he3

/-- `kw (cond) body` : `if` without `else`, `while`, and the front part of `if` with `else` -/
theorem cond_lex (t : Token) (ty : TokType) (hty : t.type = ty) (ht : tokOk t) (hc : canon ty ≠ [])
    (hl : isLetter ((canon ty).headD 0) = true) (hw : EndOK (fol ty)) (str : Bytes) (hstr : str = canon ty)
    (C : Expr) (ctoks : List Token) (hC : ELex C ctoks) (B : Stmt) (btoks : List Token) (hB : SLex B btoks)
    {cw : CW} {ks fc} (h : WInv cw ks fc) (hs : StartOK fc) :
    ∃ fc', WInv (writeStmt B (((writeExpr C ((((cw.head t).writeString str).writeSpace).writeRune 40)).writeRune 41).writeSpace))
      (ks ++ (t :: lpT :: ctoks ++ rpT :: btoks).map keyOf) fc' ∧ AllOK fc' := by
  have h1 := (kw_step h (hs.d true) t ty hty ht hc hl str hstr).writeSpace
  obtain ⟨fc3, h3, he3⟩ := hC (h1.delim hw lpT rfl) (fol_start .lparen (by decide) (by decide))
  obtain ⟨fc5, h5, ha5⟩ := hB (h3.delim he3 rpT rfl).writeSpace allOK_rparen.start
  exact ⟨fc5, h5.regroup, ha5⟩

theorem if_lex (t : Token) (hty : t.type = .if_) (ht : tokOk t) (C : Expr) (ctoks : List Token) (hC : ELex C ctoks)
    (T : Stmt) (ttoks : List Token) (hT : SLex T ttoks) : SLex (.ifS t C T .none) (t :: lpT :: ctoks ++ rpT :: ttoks) := by
  intro cw ks fc h hs
  simp only [writeStmt, Stmt.isNone, if_true]
  exact cond_lex t .if_ hty ht (by decide) (by decide) (endOK_kw _ rfl) _ sb_if C ctoks hC T ttoks hT h hs

theorem ifElse_lex (t el : Token) (hty : t.type = .if_) (ht : tokOk t) (hety : el.type = .else_) (he : tokOk el)
    (C : Expr) (ctoks : List Token) (hC : ELex C ctoks) (T E : Stmt) (ttoks etoks : List Token) (hT : SLex T ttoks) (hE : SLex E etoks)
    (hen : E.isNone = false) : SLex (.ifS t C T E) (t :: lpT :: ctoks ++ rpT :: ttoks ++ el :: etoks) := by
  intro cw ks fc h hs
  simp only [writeStmt, hen, Bool.false_eq_true, if_false]
  obtain ⟨fc2, h2, ha2⟩ := cond_lex t .if_ hty ht (by decide) (by decide) (endOK_kw _ rfl) _ sb_if C ctoks hC T ttoks hT h hs
  have hk : keyOf el = (.else_, canon .else_) := keyOf_fixed el he .else_ hety (by decide)
  have h3 := h2.kwSpace .else_ (by decide) true (fun r => by simp [fol, isWordByte, isLetter, isDigit])
    ⟨(Fields.str h2.pend (strBytes " else ")).1, (Fields.str h2.pend (strBytes " else ")).2.1,
      by rw [(Fields.str h2.pend (strBytes " else ")).2.2, sb_else]; simp⟩ (fun r => ha2 _)
  obtain ⟨fc4, h4, ha4⟩ := hE h3 startOK_any
  exact ⟨fc4, by rw [← hk] at h4; exact h4.regroup, ha4⟩

theorem while_lex (t : Token) (hty : t.type = .while_) (ht : tokOk t) (C : Expr) (ctoks : List Token) (hC : ELex C ctoks)
    (B : Stmt) (btoks : List Token) (hB : SLex B btoks) : SLex (.whileS t C B) (t :: lpT :: ctoks ++ rpT :: btoks) := by
  intro cw ks fc h hs
  simp only [writeStmt]
  exact cond_lex t .while_ hty ht (by decide) (by decide) (endOK_kw _ rfl) _ sb_while C ctoks hC B btoks hB h hs

theorem olex_none : OLex .none [] := fun h ha => ⟨_, by simpa [Expr.isNone] using h, ha.endOK⟩
theorem olex_some (e : Expr) (toks : List Token) (hne : e.isNone = false) (hE : ELex e toks) : OLex e toks := by
  intro cw ks fc h ha
  simp only [hne, Bool.false_eq_true, if_false]
  exact hE h ha.start

theorem for_lex (t : Token) (hty : t.type = .for_) (ht : tokOk t) (I C U : Expr) (itoks ctoks utoks : List Token)
    (hI : OLex I itoks) (hCo : OLex C ctoks) (hU : OLex U utoks) (B : Stmt) (btoks : List Token) (hB : SLex B btoks) :
    SLex (.forS t I C U B) (t :: lpT :: itoks ++ semiT :: ctoks ++ semiT :: utoks ++ rpT :: btoks) := by
  intro cw ks fc h hs
  simp only [writeStmt]
  have h1 := (kw_step h (hs.d true) t .for_ hty ht (by decide) (by decide) _ sb_for).writeSpace
  obtain ⟨fc3, h3, he3⟩ := hI (h1.delim (endOK_kw .for_ rfl) lpT rfl) allOK_lparen
  obtain ⟨fc5, h5, he5⟩ := hCo (h3.delim he3 semiT rfl).writeSpace allOK_semi
  obtain ⟨fc7, h7, he7⟩ := hU (h5.delim he5 semiT rfl).writeSpace allOK_semi
  obtain ⟨fc9, h9, ha9⟩ := hB (h7.delim he7 rpT rfl).writeSpace allOK_rparen.start
  exact ⟨fc9, h9.regroup, ha9⟩

/-- one more statement of a list (`pre`: the line break and indentation in front of it), then the rest of the list -/
theorem stmt_rest {pre rest : CW → CW} {s : Stmt} {stoks rtoks : List Token} (hS : SLex s stoks)
    (hpre : ∀ {cw : CW} {ks : List Key} {fc : Bytes → Bool}, WInv cw ks fc → WInv (pre cw) ks fc)
    (hR : ∀ {cw : CW} {ks : List Key} {fc : Bytes → Bool}, WInv cw ks fc → AllOK fc →
      ∃ fc', WInv (rest cw) (ks ++ rtoks.map keyOf) fc' ∧ AllOK fc')
    {cw : CW} {ks fc} (h : WInv cw ks fc) (ha : AllOK fc) :
    ∃ fc', WInv (rest (writeStmt s (pre cw))) (ks ++ (stoks ++ rtoks).map keyOf) fc' ∧ AllOK fc' := by
  obtain ⟨fc1, h1, ha1⟩ := hS (hpre h) ha.start
  obtain ⟨fc2, h2, ha2⟩ := hR h1 ha1
  exact ⟨fc2, h2.regroup, ha2⟩

theorem blex_nil : BLex .nil [] := by
  intro first cw ks fc h ha
  exact ⟨_, by simpa [writeBlockStmts] using h, ha⟩
theorem blex_cons (s : Stmt) (rest : StmtList) (stoks rtoks : List Token) (hS : SLex s stoks) (hR : BLex rest rtoks) :
    BLex (.cons s rest) (stoks ++ rtoks) :=
  fun first _ _ _ h ha => stmt_rest (pre := fun cw => (cw.newlineIf first).writeIndent) hS (fun h => (h.newlineIf first).writeIndent)
    (hR false) h ha

theorem glex_nil : GLex .nil [] := by
  intro first cw ks fc h ha
  exact ⟨_, by simpa [writeProgramStmts] using h, ha⟩
theorem glex_cons (s : Stmt) (rest : StmtList) (stoks rtoks : List Token) (hS : SLex s stoks) (hR : GLex rest rtoks) :
    GLex (.cons s rest) (stoks ++ rtoks) :=
  fun first _ _ _ h ha => stmt_rest (pre := fun cw => cw.newlineIf first) hS (fun h => h.newlineIf first) (hR false) h ha

/-- `(params) { body }` of a function -/
theorem params_block_lex (ps : List Token) (hp : ∀ p ∈ ps, p.type = .ident ∧ tokOk p) (body : StmtList) (btoks : List Token)
    (hB : BLex body btoks) {cw : CW} {ks fc} (h : WInv cw ks fc) (hpre : ∀ r, fc (40 :: r) = true) :
    ∃ fc', WInv (writeStmt (.block lbrT body rbrT) (((writeParams (ps.map identOf) true (cw.writeRune 40)).writeRune 41).writeSpace))
      (ks ++ (lpT :: paramToks ps ++ rpT :: lbrT :: btoks ++ [rbrT]).map keyOf) fc' ∧ AllOK fc' := by
  obtain ⟨fc4, h4, ha4⟩ := block_lex lbrT rbrT rfl rfl body btoks hB (params_lex ps hp h hpre) allOK_rparen.start
  exact ⟨fc4, h4.regroup, ha4⟩

/-- `function name(params) { body }` as a declaration -/
theorem funcD_lex (t name : Token) (hty : t.type = .function) (ht : tokOk t) (hnty : name.type = .ident) (hn : tokOk name)
    (ps : List Token) (hp : ∀ p ∈ ps, p.type = .ident ∧ tokOk p) (body : StmtList) (btoks : List Token) (hB : BLex body btoks) :
    SLex (.funcD t (identOf name) (ps.map identOf) (.block lbrT body rbrT))
      (t :: name :: lpT :: paramToks ps ++ rpT :: lbrT :: btoks ++ [rbrT]) := by
  intro cw ks fc h hs
  simp only [writeStmt]
  have hk : keyOf t = (.function, canon .function) := keyOf_fixed t ht .function hty (by decide)
  have h1 := (h.head t).kwSpace .function (by decide) false (fun r => by simp [fol, isWordByte, isLetter, isDigit])
    ⟨(Fields.str (h.head t).pend (strBytes "function ")).1, (Fields.str (h.head t).pend (strBytes "function ")).2.1,
      by rw [(Fields.str (h.head t).pend (strBytes "function ")).2.2, sb_function_sp]; simp⟩
    (fun r => pre_start hs 102 _ (by decide) r)
  rw [← hk] at h1
  obtain ⟨fc4, h4, ha4⟩ := params_block_lex ps hp body btoks hB (name_lex name hnty hn h1 (startOK_any.d true))
    (fun r => by simp [fol, isWordByte, isLetter, isDigit])
  simp only [writeStmt] at h4
  exact ⟨fc4, h4.regroup, ha4⟩

/-- `function name?(params) { body }` as an expression -/
theorem func_lex (t : Token) (hty : t.type = .function) (ht : tokOk t) (name : Option Token)
    (hn : ∀ n ∈ optTok name, n.type = .ident ∧ tokOk n)
    (ps : List Token) (hp : ∀ p ∈ ps, p.type = .ident ∧ tokOk p) (body : StmtList) (btoks : List Token) (hB : BLex body btoks) :
    ELex (.func t (name.map identOf) (ps.map identOf) (.block lbrT body rbrT))
      (t :: optTok name ++ lpT :: paramToks ps ++ rpT :: lbrT :: btoks ++ [rbrT]) := by
  intro cw ks fc h hs
  have h1 := kw_step h (hs.d true) t .function hty ht (by decide) (by decide) _ sb_function
  cases name with
  | none =>
    simp only [writeExpr, Option.map_none]
    obtain ⟨fc4, h4, ha4⟩ := params_block_lex ps hp body btoks hB h1 (fun r => by simp [fol, isWordByte, isLetter, isDigit])
    exact ⟨fc4, h4.regroup (by simp only [optTok, List.map_cons, List.map_append, List.map_nil, List.append_assoc, List.cons_append,
      List.nil_append]), ha4.endOK⟩
  | some n =>
    simp only [writeExpr, Option.map_some]
    have h2 := h1.space (fun r => by simp [fol, isWordByte, isLetter, isDigit])
    have h3 := name_lex n (hn n (by simp [optTok])).1 (hn n (by simp [optTok])).2 h2 (startOK_any.d true)
    obtain ⟨fc4, h4, ha4⟩ := params_block_lex ps hp body btoks hB h3 (fun r => by simp [fol, isWordByte, isLetter, isDigit])
    exact ⟨fc4, h4.regroup (by simp only [optTok, List.map_cons, List.map_append, List.map_nil, List.append_assoc, List.cons_append,
      List.nil_append]), ha4.endOK⟩

end Xjs.LP
