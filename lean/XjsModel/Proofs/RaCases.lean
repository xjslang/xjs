import XjsModel.Proofs.RaLemmas
/-
  Round trip, expressions: one lemma per node kind, each from the invariant of the children.

  The infix forms share one frame: the left part is read up to the loop (`left_then`), the loop goes on over the
  operator token (`remaining_step`), the infix parse function reads the right part, and the cursor arithmetic is done
  once at the end.
-/
namespace Xjs.RA
open Xjs

variable {cfg : PCfg}

theorem fits_unary_operand (r : SE) (hw : r.wf = true) (h : precUnary ≤ r.level) : r.fits UNARY := by
  by_cases h9 : r.level = precUnary
  · cases r with
    | un t r => trivial
    | bin t l r =>
      simp only [SE.wf, Bool.and_eq_true, beq_iff_eq] at hw
      have := (binary_prec t.type hw.1.1).2.2.1
      have h' : operatorPrecedence t.type = precUnary := h9
      unfold precUnary at h'; omega
    | _ => simp [SE.level, precUnary, precAtomic, precPostfix, precCall, precMember, precAssignment] at h9
  · exact fits_of_level r hw UNARY (by unfold UNARY; unfold precUnary at *; omega) (by decide)

/-- what the right operand of a prefix or binary operator at level `m` leaves open: the operator's own loop, and what
    the operand (parenthesised or not) leaves open -/
theorem rbl_operand (b : Bool) (m : Nat) (r : SE) (hm : m ≤ precAtomic) :
    (if b then m else min m r.rbl) ≤ m ∧ (if b then m else min m r.rbl) ≤ (r.wrap b).rbl := by
  cases b
  · exact ⟨Nat.min_le_left _ _, Nat.min_le_right _ _⟩
  · exact ⟨Nat.le_refl _, hm⟩

/-- nothing below `my` is open at the right end of a left operand, which is parenthesised iff its level is lower -/
theorem le_wrap_rbl (l : SE) (hw : l.wf = true) (my : Nat) (h3 : 3 ≤ my) (h13 : my ≤ precAtomic) :
    my ≤ (l.wrap (decide (l.level < my))).rbl := by
  rw [wrap_rbl]
  by_cases h : l.level < my
  · simp only [h, decide_true, if_true]; exact h13
  · simp only [h, decide_false]
    exact Nat.le_trans (Nat.le_of_not_lt h) (level_le_rbl l hw (by unfold precAssignment; omega))

theorem case_atom (hc : BaseCfg cfg) (t : Token) (hw : (SE.atom t).wf = true) : Main cfg (.atom t) := by
  intro p st rest _ ht _ _
  have hcur : st.cur = t := cur_of_toks ht
  rw [unfold_expr, prefix_atom hc st (by rw [hcur]; exact hw)]
  simp only [Option.bind_eq_bind, Option.bind_some, hcur]
  rfl

theorem case_un (hc : BaseCfg cfg) (t : Token) (r : SE) (hw : (SE.un t r).wf = true) (ih : Main cfg r) : Main cfg (.un t r) := by
  intro p st rest hr ht _ hs
  simp only [SE.wf, Bool.and_eq_true, beq_iff_eq] at hw
  have ht' : st.toks = t :: ((r.wrap (parenUnary r)).toks ++ rest) := by rw [ht, wrap_toks]; rfl
  have hcur : st.cur = t := cur_of_toks ht'
  have hn : st.next.toks = (r.wrap (parenUnary r)).toks ++ rest := next_toks ht' (by simp [toks_ne_nil])
  -- the loop opened by the prefix operator stops behind the operand
  have hle := rbl_operand (parenUnary r) precUnary r (by decide)
  have hfit : parenUnary r = false → r.fits UNARY := fun hb =>
    fits_unary_operand r hw.2 (by simpa [parenUnary] using hb)
  have e1 := eval_of_main _ (wrap_main hc (parenUnary r) r hw.2 ih) UNARY st.next rest hr hn (wrap_fits hfit)
    (stops_mono hs hle.2) (stops_mono hs hle.1)
  rw [unfold_expr, prefix_unary hc st (by rw [hcur]; exact hw.1), e1]
  simp only [Option.bind_eq_bind, Option.bind_some, hcur, wrap_tree]
  show parseRemaining cfg (SE.un t r).tree p _ = _
  congr 1
  have := toks_len_pos (r.wrap (parenUnary r))
  simp only [next_eq, nextK_nextK, SE.toks, ← wrap_toks, List.length_cons]
  exact nextK_congr (by omega) _

/-- the left part `L` of an infix form is read up to the loop; the cursor then stands in front of the operator `t` -/
theorem left_then (L : SE) (ih : Main cfg L) (p : Nat) (st : PS) (t : Token) (more : List Token) (hfit : L.fits p)
    (hs : precOf cfg t.type ≤ L.rbl) (ht : st.toks = L.toks ++ t :: more) :
    parseExpressionI cfg [] p st = parseRemaining cfg L.tree p (nextK (L.toks.length - 1) st) ∧
      (nextK (L.toks.length - 1) st).peek = t :=
  ⟨ih p st _ (List.cons_ne_nil _ _) ht hfit (stops_prec hs), peek_after (toks_ne_nil L) ht⟩

theorem case_bin (hc : BaseCfg cfg) (t : Token) (l r : SE) (hw : (SE.bin t l r).wf = true) (ihl : Main cfg l) (ihr : Main cfg r) :
    Main cfg (.bin t l r) := by
  intro p st rest hr ht hf hs
  simp only [SE.wf, Bool.and_eq_true, beq_iff_eq] at hw
  obtain ⟨⟨hbin, hwl⟩, hwr⟩ := hw
  obtain ⟨hprec, h3, h8, hsemi, hlp, hlb, hupd⟩ := binary_prec t.type hbin
  have hprec' : precOf cfg t.type = operatorPrecedence t.type := by rw [precOf_base hc]; exact hprec
  have hf' : p < operatorPrecedence t.type ∧ (parenLeft (operatorPrecedence t.type) l = true ∨ l.fits p) := hf
  have h13 : operatorPrecedence t.type ≤ precAtomic := by unfold precAtomic; omega
  have ht1 : st.toks = (l.wrap (parenLeft (operatorPrecedence t.type) l)).toks ++
      t :: ((r.wrap (parenRight (operatorPrecedence t.type) r)).toks ++ rest) := by
    rw [ht, wrap_toks, wrap_toks]; simp [SE.toks]
  -- left operand, up to the loop
  obtain ⟨eL, hpk⟩ := left_then _ (wrap_main hc _ l hwl ihl) p st t _
    (wrap_fits fun hb => hf'.2.resolve_left (by simp [hb]))
    (by rw [hprec']; exact le_wrap_rbl l hwl _ h3 h13) ht1
  -- right operand, at the operator's own level
  have hle := rbl_operand (parenRight (operatorPrecedence t.type) r) (operatorPrecedence t.type) r h13
  have eR := eval_of_main _ (wrap_main hc _ r hwr ihr) (operatorPrecedence t.type) _ rest hr
    (toks_behind (toks_ne_nil _) (by simp [toks_ne_nil]) ht1)
    (wrap_fits fun hb => fits_of_level r hwr _ (by simpa [parenRight] using hb) (by omega))
    (stops_mono hs hle.2) (stops_mono hs hle.1)
  rw [eL, remaining_step _ p hpk hsemi (by rw [hprec']; exact hf'.1) (Or.inr ⟨hlp, hlb⟩) (Or.inr hupd),
    infix_binary hc _ hpk hbin, hprec', eR]
  simp only [Option.bind_eq_bind, Option.bind_some, wrap_tree]
  show parseRemaining cfg (SE.bin t l r).tree p _ = _
  congr 1
  have := toks_len_pos (l.wrap (parenLeft (operatorPrecedence t.type) l))
  have := toks_len_pos (r.wrap (parenRight (operatorPrecedence t.type) r))
  simp only [next_eq, nextK_nextK, SE.toks, ← wrap_toks, List.length_cons, List.length_append]
  exact nextK_congr (by omega) _

theorem case_post (hc : BaseCfg cfg) (t : Token) (l : SE) (hw : (SE.post t l).wf = true) (ihl : Main cfg l) : Main cfg (.post t l) := by
  intro p st rest _ ht hf _
  simp only [SE.wf, Bool.and_eq_true, beq_iff_eq, Bool.not_eq_true'] at hw
  obtain ⟨⟨hpost, hwl⟩, hnl⟩ := hw
  obtain ⟨hprec, hsemi, hlp, hlb⟩ := postfix_prec t.type hpost
  have hprec' : precOf cfg t.type = precPostfix := by rw [precOf_base hc]; exact hprec
  have hf' : p < precPostfix ∧ (parenPostfix l = true ∨ l.fits p) := hf
  have ht1 : st.toks = (l.wrap (parenPostfix l)).toks ++ t :: rest := by rw [ht, wrap_toks]; simp [SE.toks]
  obtain ⟨eL, hpk⟩ := left_then _ (wrap_main hc _ l hwl ihl) p st t _
    (wrap_fits fun hb => hf'.2.resolve_left (by simp [hb]))
    (by rw [hprec']; exact le_wrap_rbl l hwl _ (by decide) (by decide)) ht1
  rw [eL, remaining_step _ p hpk hsemi (by rw [hprec']; exact hf'.1) (Or.inr ⟨hlp, hlb⟩) (Or.inl hnl), infix_postfix hc _ hpk hpost]
  simp only [Option.bind_eq_bind, Option.bind_some, wrap_tree]
  show parseRemaining cfg (SE.post t l).tree p _ = _
  congr 1
  have := toks_len_pos (l.wrap (parenPostfix l))
  simp only [next_eq, nextK_nextK, SE.toks, ← wrap_toks, List.length_cons, List.length_append, List.length_nil]
  exact nextK_congr (by omega) _

/-! ### the suffix forms: call, member access, assignment — the left part stands unparenthesised -/

theorem rbl_of_call_level (s : SE) (h : precCall ≤ s.level) (hw : s.wf = true) : s.rbl = precAtomic := by
  cases s with
  | un t r => simp [SE.level, precCall, precUnary] at h
  | post t l => simp [SE.level, precCall, precPostfix] at h
  | asg t l v => simp [SE.level, precCall, precAssignment] at h
  | casg t l v => simp [SE.level, precCall, precAssignment] at h
  | bin t l r =>
    simp only [SE.wf, Bool.and_eq_true, beq_iff_eq] at hw
    have := (binary_prec t.type hw.1.1).2.2.1
    have h' : precCall ≤ operatorPrecedence t.type := h
    unfold precCall at h'; omega
  | _ => rfl

/-- behind a call-level-or-tighter expression every token goes on or ends the expression: nothing is left open -/
theorem suffix_left (hc : BaseCfg cfg) (l : SE) (hw : l.wf = true) (hl : precCall ≤ l.level) (ih : Main cfg l)
    (p : Nat) (st : PS) (t : Token) (more : List Token) (hfit : l.fits p) (ht : st.toks = l.toks ++ t :: more) :
    parseExpressionI cfg [] p st = parseRemaining cfg l.tree p (nextK (l.toks.length - 1) st) ∧
      (nextK (l.toks.length - 1) st).peek = t :=
  left_then l ih p st t more hfit
    (by rw [rbl_of_call_level l hl hw, precOf_base hc]; exact Nat.le_trans (precOf_le_member t.type) (by decide)) ht

theorem case_call (hc : BaseCfg cfg) (t : Token) (f : SE) (args : SEList) (hw : (SE.call t f args).wf = true)
    (ihf : Main cfg f) (iha : MainList cfg args) : Main cfg (.call t f args) := by
  intro p st rest hr ht hf _
  simp only [SE.wf, Bool.and_eq_true, beq_iff_eq, decide_eq_true_eq, Bool.not_eq_true'] at hw
  obtain ⟨⟨⟨⟨hty, hnl⟩, hlev⟩, hwf⟩, _⟩ := hw
  have hfit : p < precCall ∧ f.fits p := hf
  have ht1 : st.toks = f.toks ++ t :: (args.toks ++ rpT :: rest) := by rw [ht]; simp [SE.toks]
  obtain ⟨eL, hpk⟩ := suffix_left hc f hwf hlev ihf p st t _ hfit.2 ht1
  obtain ⟨lastL, hS1⟩ := toks_after (toks_ne_nil f) ht1
  have e2 : parseExpressionList cfg .rparen _ = _ := iha _ t rpT rest hr (next_toks_cons hS1) (Or.inl rfl)
  rw [eL, remaining_step _ p hpk (by rw [hty]; decide) (by rw [hty, precOf_base hc]; exact hfit.1) (Or.inl hnl) (Or.inl hnl),
    infix_call hc _ hpk hty, e2]
  simp only [Option.bind_eq_bind, Option.bind_some]
  show parseRemaining cfg (SE.call t f args).tree p _ = _
  congr 1
  have := toks_len_pos f
  simp only [next_eq, nextK_nextK, SE.toks, List.length_cons, List.length_append, List.length_nil]
  exact nextK_congr (by omega) _

theorem case_dot (hc : BaseCfg cfg) (t : Token) (o : SE) (pr : Token) (hw : (SE.dot t o pr).wf = true)
    (iho : Main cfg o) : Main cfg (.dot t o pr) := by
  intro p st rest hr ht hf _
  simp only [SE.wf, Bool.and_eq_true, beq_iff_eq, decide_eq_true_eq] at hw
  obtain ⟨⟨⟨hty, hlev⟩, hwf⟩, hwp⟩ := hw
  have hfit : p < precMember ∧ o.fits p := hf
  have ht1 : st.toks = o.toks ++ t :: (pr :: rest) := by rw [ht]; simp [SE.toks]
  obtain ⟨eL, hpk⟩ := suffix_left hc o hwf hlev iho p st t _ hfit.2 ht1
  have hS2 := toks_behind (toks_ne_nil o) (List.cons_ne_nil _ _) ht1
  have hcur2 := cur_of_toks hS2
  -- the property name: an atom, and nothing binds tighter than MEMBER
  have e2 : parseExpressionI cfg [] MEMBER (nextK (o.toks.length - 1) st).next.next =
      some (atomTree pr, (nextK (o.toks.length - 1) st).next.next) := by
    rw [unfold_expr, prefix_atom hc _ (by rw [hcur2]; exact hwp)]
    simp only [Option.bind_eq_bind, Option.bind_some, hcur2]
    obtain ⟨r0, rs, rfl⟩ := List.exists_cons_of_ne_nil hr
    exact remaining_stop _ _ _ rs (Or.inr (Or.inl (by rw [peek_of_toks hS2, precOf_base hc]; exact precOf_le_member _)))
  rw [eL, remaining_step _ p hpk (by rw [hty]; decide) (by rw [hty, precOf_base hc]; exact hfit.1)
      (Or.inr (by rw [hty]; decide)) (Or.inr (by rw [hty]; decide)),
    infix_member hc _ hpk hty, e2]
  simp only [Option.bind_eq_bind, Option.bind_some]
  show parseRemaining cfg (SE.dot t o pr).tree p _ = _
  congr 1
  have := toks_len_pos o
  simp only [next_eq, nextK_nextK, SE.toks, List.length_cons, List.length_append, List.length_nil]
  exact nextK_congr (by omega) _

theorem case_idx (hc : BaseCfg cfg) (t : Token) (o pe : SE) (hw : (SE.idx t o pe).wf = true)
    (iho : Main cfg o) (ihp : Main cfg pe) : Main cfg (.idx t o pe) := by
  intro p st rest _ ht hf _
  simp only [SE.wf, Bool.and_eq_true, beq_iff_eq, decide_eq_true_eq, Bool.not_eq_true'] at hw
  obtain ⟨⟨⟨⟨hty, hnl⟩, hlev⟩, hwf⟩, hwp⟩ := hw
  have hfit : p < precMember ∧ o.fits p := hf
  have ht1 : st.toks = o.toks ++ t :: (pe.toks ++ rbT :: rest) := by rw [ht]; simp [SE.toks]
  obtain ⟨eL, hpk⟩ := suffix_left hc o hwf hlev iho p st t _ hfit.2 ht1
  have hS2 := toks_behind (toks_ne_nil o) (by simp) ht1
  have e2 := eval_lowest hc pe hwp ihp _ _ hS2 (stops_closer hc rbT rest (by decide))
  have hpk2 := peek_after (toks_ne_nil pe) hS2
  rw [eL, remaining_step _ p hpk (by rw [hty]; decide) (by rw [hty, precOf_base hc]; exact hfit.1) (Or.inl hnl) (Or.inl hnl),
    infix_index hc _ hpk hty, e2]
  simp only [Option.bind_eq_bind, Option.bind_some, expect_ok (ty := .rbracket) (by rw [hpk2]; rfl), if_true]
  show parseRemaining cfg (SE.idx t o pe).tree p _ = _
  congr 1
  have := toks_len_pos o
  have := toks_len_pos pe
  simp only [next_eq, nextK_nextK, SE.toks, List.length_cons, List.length_append, List.length_nil]
  exact nextK_congr (by omega) _

/-- assignment and compound assignment share everything but the node that is built -/
theorem assign_like (hc : BaseCfg cfg) (t : Token) (l v : SE) (hwl : l.wf = true) (hlev : precCall ≤ l.level)
    (hwv : v.wf = true) (ihl : Main cfg l) (ihv : Main cfg v)
    (p : Nat) (st : PS) (rest : List Token) (ht : st.toks = l.toks ++ t :: v.toks ++ rest)
    (hfl : l.fits p) (hs : stops cfg precLowest rest) :
    parseExpressionI cfg [] p st = parseRemaining cfg l.tree p (nextK (l.toks.length - 1) st) ∧
      (nextK (l.toks.length - 1) st).peek = t ∧
      parseExpressionI cfg cfg.exprI LOWEST (nextK (l.toks.length - 1) st).next.next =
        some (v.tree, nextK ((l.toks ++ t :: v.toks).length - 1) st) := by
  have ht1 : st.toks = l.toks ++ t :: (v.toks ++ rest) := by rw [ht]; simp
  obtain ⟨eL, hpk⟩ := suffix_left hc l hwl hlev ihl p st t _ hfl ht1
  refine ⟨eL, hpk, ?_⟩
  rw [eval_lowest hc v hwv ihv _ rest (toks_behind (toks_ne_nil l) (by simp [toks_ne_nil]) ht1) hs]
  congr 2
  have := toks_len_pos l
  have := toks_len_pos v
  simp only [next_eq, nextK_nextK, List.length_cons, List.length_append]
  exact nextK_congr (by omega) _

theorem case_asg (hc : BaseCfg cfg) (t : Token) (l v : SE) (hw : (SE.asg t l v).wf = true)
    (ihl : Main cfg l) (ihv : Main cfg v) : Main cfg (.asg t l v) := by
  intro p st rest _ ht hf hs
  simp only [SE.wf, Bool.and_eq_true, beq_iff_eq, decide_eq_true_eq] at hw
  obtain ⟨⟨⟨hty, hlev⟩, hwl⟩, hwv⟩ := hw
  have hfit : p < precAssignment ∧ l.fits p := hf
  obtain ⟨eL, hpk, e2⟩ := assign_like hc t l v hwl hlev hwv ihl ihv p st rest (by rw [ht]; simp [SE.toks]) hfit.2 hs
  rw [eL, remaining_step _ p hpk (by rw [hty]; decide) (by rw [hty, precOf_base hc]; exact hfit.1)
      (Or.inr (by rw [hty]; decide)) (Or.inr (by rw [hty]; decide)),
    infix_assign hc _ hpk hty, e2]
  simp only [Option.bind_eq_bind, Option.bind_some]
  simp [SE.tree, SE.toks]

theorem case_casg (hc : BaseCfg cfg) (t : Token) (l v : SE) (hw : (SE.casg t l v).wf = true)
    (ihl : Main cfg l) (ihv : Main cfg v) : Main cfg (.casg t l v) := by
  intro p st rest _ ht hf hs
  simp only [SE.wf, Bool.and_eq_true, Bool.or_eq_true, beq_iff_eq, decide_eq_true_eq] at hw
  obtain ⟨⟨⟨hty, hlev⟩, hwl⟩, hwv⟩ := hw
  have hfit : p < precAssignment ∧ l.fits p := hf
  obtain ⟨eL, hpk, e2⟩ := assign_like hc t l v hwl hlev hwv ihl ihv p st rest (by rw [ht]; simp [SE.toks]) hfit.2 hs
  rw [eL, remaining_step _ p hpk (by rcases hty with h | h <;> rw [h] <;> decide)
      (by rcases hty with h | h <;> rw [h, precOf_base hc] <;> exact hfit.1)
      (Or.inr (by rcases hty with h | h <;> rw [h] <;> decide)) (Or.inr (by rcases hty with h | h <;> rw [h] <;> decide)),
    infix_compound hc _ hpk hty, e2]
  simp only [Option.bind_eq_bind, Option.bind_some]
  simp [SE.tree, SE.toks]

theorem case_arr (hc : BaseCfg cfg) (t : Token) (es : SEList) (hw : (SE.arr t es).wf = true)
    (ihe : MainList cfg es) : Main cfg (.arr t es) := by
  intro p st rest hr ht _ _
  simp only [SE.wf, Bool.and_eq_true, beq_iff_eq] at hw
  have ht1 : st.toks = t :: (es.toks ++ rbT :: rest) := by rw [ht]; simp [SE.toks]
  have hcur : st.cur = t := cur_of_toks ht1
  have e2 : parseExpressionList cfg .rbracket st = _ := ihe st t rbT rest hr ht1 (Or.inr rfl)
  rw [unfold_expr, prefix_array hc st (by rw [hcur]; exact hw.1), e2]
  have hend : (nextK (es.toks.length + 1) st).cur = rbT := cur_at (t :: es.toks) ht1
  simp only [Option.bind_eq_bind, Option.bind_some, hcur, hend]
  show parseRemaining cfg (SE.arr t es).tree p _ = _
  congr 1
  simp [SE.toks]

end Xjs.RA
