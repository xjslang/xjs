import XjsModel.Proofs.Indent
import XjsModel.Proofs.Writer
/-
  Two writers that differ only in their indent string stay equivalent (`IndRel`) under every writer operation.
-/
namespace Xjs

/-- a tab (deferred indentation) is only ever pending behind a pending line feed -/
def PendShape (p : List Nat) : Prop :=
  p = [] ∨ p = [32] ∨ ∃ r, p = 10 :: r ∧ ∀ c ∈ r, c = 9 ∨ c = 32

/-- two pretty writers without a mapper that differ only in their indent unit (both made of spaces and tabs): same state,
    outputs equal up to leading whitespace, and deferred indentation only behind a pending line feed -/
structure IndRel (a b : CW) : Prop where
  pretty : a.pretty = b.pretty
  level : a.indentLevel = b.indentLevel
  semis : a.semis = b.semis
  pend : a.pendings = b.pendings
  ok : a.ok = b.ok
  mapA : a.mapper = none
  mapB : b.mapper = none
  out : Eqv a.out b.out
  wsA : AllWs a.indentUnit
  wsB : AllWs b.indentUnit
  shape : PendShape a.pendings

theorem AllWs_indentBytes {cw : CW} (h : AllWs cw.indentUnit) : AllWs cw.indentBytes :=
  AllWs_replicate_flatten _ _ h

theorem AllWs_flushBytes_tail {cw : CW} (h : AllWs cw.indentUnit) (r : List Nat) (hr : ∀ c ∈ r, c = 9 ∨ c = 32) :
    AllWs (flushBytes cw r) := by
  intro c hc
  simp only [flushBytes, List.mem_flatMap] at hc
  obtain ⟨d, hd, hcd⟩ := hc
  rcases hr d hd with rfl | rfl
  · simp at hcd; exact AllWs_indentBytes h c hcd
  · simp at hcd; subst hcd; rfl

/-- flushing the pending white space keeps the two writers equivalent -/
theorem IndRel.flush {a b : CW} (h : IndRel a b) : IndRel a.flushPending b.flushPending := by
  rw [flushPending_eq, flushPending_eq]
  refine ⟨h.pretty, h.level, h.semis, rfl, h.ok, h.mapA, h.mapB, ?_, h.wsA, h.wsB, Or.inl rfl⟩
  simp only
  rw [← h.pend]
  rcases h.shape with hp | hp | ⟨r, hp, hr⟩
  · rw [hp]; simp [flushBytes]; exact h.out
  · rw [hp]; simp [flushBytes]; exact h.out.append [32]
  · rw [hp]
    have e1 : flushBytes a (10 :: r) = [10] ++ flushBytes a r := by simp [flushBytes, List.flatMap_cons]
    have e2 : flushBytes b (10 :: r) = [10] ++ flushBytes b r := by simp [flushBytes, List.flatMap_cons]
    rw [e1, e2, ← List.append_assoc, ← List.append_assoc]
    exact h.out.append_nl_ws _ _ (AllWs_flushBytes_tail h.wsA r hr) (AllWs_flushBytes_tail h.wsB r hr)

theorem IndRel.appendOut {a b : CW} (h : IndRel a b) (s : Bytes) :
    IndRel { a with out := a.out ++ s } { b with out := b.out ++ s } :=
  ⟨h.pretty, h.level, h.semis, h.pend, h.ok, h.mapA, h.mapB, h.out.append s, h.wsA, h.wsB, h.shape⟩

theorem mapAdvance_none {cw : CW} (h : cw.mapper = none) (f : Mapper → Mapper) : cw.mapAdvance f = cw := by
  unfold CW.mapAdvance; rw [h]

theorem IndRel.writeString {a b : CW} (h : IndRel a b) (s : Bytes) : IndRel (a.writeString s) (b.writeString s) := by
  unfold CW.writeString
  have hf := h.flush
  have := hf.appendOut s
  rw [mapAdvance_none (by exact hf.mapA), mapAdvance_none (by exact hf.mapB)]
  exact this

theorem IndRel.writeRune {a b : CW} (h : IndRel a b) (r : Nat) : IndRel (a.writeRune r) (b.writeRune r) := by
  unfold CW.writeRune
  have hf := h.flush
  have := hf.appendOut [r]
  rw [mapAdvance_none (by exact hf.mapA), mapAdvance_none (by exact hf.mapB)]
  exact this

theorem IndRel.panic {a b : CW} (h : IndRel a b) : IndRel a.panic b.panic :=
  ⟨h.pretty, h.level, h.semis, h.pend, rfl, h.mapA, h.mapB, h.out, h.wsA, h.wsB, h.shape⟩

theorem IndRel.writeSemi {a b : CW} (h : IndRel a b) : IndRel a.writeSemi b.writeSemi := by
  unfold CW.writeSemi
  rw [← h.pretty, ← h.semis]
  split
  · exact h.writeRune 59
  · split
    · exact h.writeRune 59
    · exact h

theorem IndRel.separateSigns {a b : CW} (h : IndRel a b) (op : Bytes) : IndRel (a.separateSigns op) (b.separateSigns op) := by
  unfold CW.separateSigns
  cases op with
  | nil => exact h
  | cons c r =>
    simp only
    split
    · exact h
    · rename_i hc
      have hf := h.flush
      have hsign : c ≠ 10 ∧ isWs c = false := by
        simp only [Bool.and_eq_true, bne_iff_ne, ne_eq, not_and, Decidable.not_not] at hc
        by_cases h43 : c = 43
        · subst h43; decide
        · have := hc h43; subst this; decide
      rw [hf.out.last_sign c hsign]
      split
      · exact hf.writeRune 32
      · exact hf

theorem IndRel.increaseIndent {a b : CW} (h : IndRel a b) : IndRel a.increaseIndent b.increaseIndent := by
  unfold CW.increaseIndent; rw [← h.pretty]; split
  · exact h
  · exact ⟨by simp, by simp [h.level], h.semis, h.pend, h.ok, h.mapA, h.mapB, h.out, h.wsA, h.wsB, h.shape⟩
theorem IndRel.decreaseIndent {a b : CW} (h : IndRel a b) : IndRel a.decreaseIndent b.decreaseIndent := by
  unfold CW.decreaseIndent; rw [← h.pretty]; split
  · exact h
  · exact ⟨by simp, by simp [h.level], h.semis, h.pend, h.ok, h.mapA, h.mapB, h.out, h.wsA, h.wsB, h.shape⟩

theorem IndRel.writeNewline {a b : CW} (h : IndRel a b) : IndRel a.writeNewline b.writeNewline := by
  unfold CW.writeNewline; rw [← h.pretty]; split
  · exact h
  · exact ⟨by simp, h.level, h.semis, rfl, h.ok, h.mapA, h.mapB, h.out, h.wsA, h.wsB, Or.inr (Or.inr ⟨[], rfl, by simp⟩)⟩

theorem IndRel.writeSpace {a b : CW} (h : IndRel a b) : IndRel a.writeSpace b.writeSpace := by
  unfold CW.writeSpace; rw [← h.pretty, ← h.pend]; split
  · exact h
  · split
    · exact h
    · refine ⟨by simp, h.level, h.semis, by simp [h.pend], h.ok, h.mapA, h.mapB, h.out, h.wsA, h.wsB, ?_⟩
      rename_i hl
      rcases h.shape with hp | hp | ⟨r, hp, hr⟩
      · rw [hp]; exact Or.inr (Or.inl rfl)
      · rw [hp] at hl; simp at hl
      · rw [hp]
        refine Or.inr (Or.inr ⟨r ++ [32], by simp, ?_⟩)
        intro c hc; simp only [List.mem_append, List.mem_singleton] at hc
        rcases hc with hc | rfl
        · exact hr c hc
        · exact Or.inr rfl

/-- deferred indentation is requested only behind a pending line feed -/
def PendNL (cw : CW) : Prop := cw.pretty = true → cw.pendings.head? = some 10

theorem IndRel.writeIndent {a b : CW} (h : IndRel a b) (hn : PendNL a) : IndRel a.writeIndent b.writeIndent := by
  unfold CW.writeIndent; rw [← h.pretty, ← h.pend]; split
  · exact h
  · rename_i hp
    have hpt : a.pretty = true := by simpa using hp
    split
    · exact h
    · refine ⟨by simp, h.level, h.semis, by simp [h.pend], h.ok, h.mapA, h.mapB, h.out, h.wsA, h.wsB, ?_⟩
      have hh := hn hpt
      rcases h.shape with hs | hs | ⟨r, hs, hr⟩
      · rw [hs] at hh; simp at hh
      · rw [hs] at hh; simp at hh
      · rw [hs]
        refine Or.inr (Or.inr ⟨r ++ [9], by simp, ?_⟩)
        intro c hc; simp only [List.mem_append, List.mem_singleton] at hc
        rcases hc with hc | rfl
        · exact hr c hc
        · exact Or.inl rfl

theorem IndRel.rawIndent_nl {a b : CW} (h : IndRel a b) :
    IndRel ({ a with out := a.out ++ [10] }).rawIndent ({ b with out := b.out ++ [10] }).rawIndent := by
  unfold CW.rawIndent
  refine ⟨h.pretty, h.level, h.semis, h.pend, h.ok, h.mapA, h.mapB, ?_, h.wsA, h.wsB, h.shape⟩
  exact h.out.append_nl_ws _ _ (AllWs_indentBytes h.wsA) (AllWs_indentBytes h.wsB)

theorem IndRel.commentsLoop {a b : CW} (cs : List Bytes) (first : Bool) (h : IndRel a b) :
    IndRel (a.commentsLoop cs first) (b.commentsLoop cs first) := by
  induction cs generalizing a b first with
  | nil => exact h
  | cons c rest ih =>
    simp only [CW.commentsLoop]
    apply ih
    by_cases hf : first = true
    · subst hf
      simp only [if_true]
      by_cases hc : (!c.isEmpty) = true
      · simp only [hc, if_true]
        exact (((h.appendOut [32]).appendOut [47, 47]).appendOut c)
      · simp only [hc]
        exact h.appendOut c
    · have hf' : first = false := by simpa using hf
      subst hf'
      simp only [Bool.false_eq_true, if_false]
      have h1 := h.rawIndent_nl
      by_cases hc : (!c.isEmpty) = true
      · simp only [hc, if_true]
        exact (h1.appendOut [47, 47]).appendOut c
      · simp only [hc]
        exact h1.appendOut c

theorem IndRel.leadingComments {a b : CW} (h : IndRel a b) (cs : List Bytes) :
    IndRel (a.leadingComments cs) (b.leadingComments cs) := by
  rw [leadingComments_eq, leadingComments_eq, ← h.pretty]
  split
  · have h1 := IndRel.commentsLoop cs true h
    rw [commentsLoop_eq, commentsLoop_eq] at h1
    exact ⟨rfl, h.level, h.semis, rfl, h.ok, h.mapA, h.mapB, h1.out, h.wsA, h.wsB, Or.inr (Or.inr ⟨[9], rfl, by simp⟩)⟩
  · exact h

/-- what `leadingComments` leaves pending: nothing new, or `[line feed, indent]` -/
theorem leadingComments_pendNL {cw : CW} (cs : List Bytes) (h : PendNL cw) : PendNL (cw.leadingComments cs) := by
  rw [leadingComments_eq]
  split
  · intro _; rfl
  · exact h

theorem IndRel.addMapping {a b : CW} (h : IndRel a b) (x y : Nat) : IndRel (a.addMapping x y) (b.addMapping x y) := by
  unfold CW.addMapping; rw [mapAdvance_none h.mapA, mapAdvance_none h.mapB]; exact h
theorem IndRel.addNamedMapping {a b : CW} (h : IndRel a b) (x y : Nat) (n : Bytes) :
    IndRel (a.addNamedMapping x y n) (b.addNamedMapping x y n) := by
  unfold CW.addNamedMapping; rw [mapAdvance_none h.mapA, mapAdvance_none h.mapB]; exact h
theorem IndRel.head {a b : CW} (h : IndRel a b) (t : Token) : IndRel (a.head t) (b.head t) := by
  unfold CW.head; exact (h.leadingComments _).addMapping _ _
theorem IndRel.openIf {a b : CW} (h : IndRel a b) (x : Bool) : IndRel (a.openIf x) (b.openIf x) := by
  unfold CW.openIf; split; exact h.writeRune 40; exact h
theorem IndRel.closeIf {a b : CW} (h : IndRel a b) (x : Bool) : IndRel (a.closeIf x) (b.closeIf x) := by
  unfold CW.closeIf; split; exact h.writeRune 41; exact h
theorem IndRel.sepIf {a b : CW} (h : IndRel a b) (x : Bool) : IndRel (a.sepIf x) (b.sepIf x) := by
  unfold CW.sepIf; split; exact h; exact (h.writeRune 44).writeSpace
theorem IndRel.newlineIf {a b : CW} (h : IndRel a b) (x : Bool) : IndRel (a.newlineIf x) (b.newlineIf x) := by
  unfold CW.newlineIf; split; exact h; exact h.writeNewline
theorem IndRel.writeIdent {a b : CW} (h : IndRel a b) (id : Ident) : IndRel (writeIdent id a) (writeIdent id b) := by
  unfold Xjs.writeIdent; exact ((h.leadingComments _).addNamedMapping _ _ _).writeString _
theorem IndRel.writeParams {a b : CW} (ps : List Ident) (f : Bool) (h : IndRel a b) :
    IndRel (Xjs.writeParams ps f a) (Xjs.writeParams ps f b) := by
  induction ps generalizing f a b with
  | nil => exact h
  | cons p rest ih => simp only [Xjs.writeParams]; exact ih _ ((h.sepIf f).writeIdent p)

end Xjs
