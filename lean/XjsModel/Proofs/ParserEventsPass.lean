import XjsModel.Spec.Events
import XjsModel.Proofs.ParserTokens
/-
  THE TRACE IS A FUNCTION OF THE TREE (C04, C16): an induction on the error-free runs. A parse step that records no
  error appends to the trace exactly the events `Spec/Events` assigns to the node it returns: every statement and
  expression slot announced once, in source order, to the interceptors in installation order (those behind a re-entrant
  one excluded), on the slot's first token, with the context stack of the place — and leaves the stack as it found it.
-/
namespace Xjs

attribute [simp] PS.next_ctx PS.next_trace
@[simp] theorem ctx_push (st : PS) (c : Ctx) : (st.push c).ctx = c :: st.ctx := rfl
@[simp] theorem trace_push (st : PS) (c : Ctx) : (st.push c).trace = st.trace := rfl
@[simp] theorem ctx_pop (st : PS) : st.pop.ctx = st.ctx.tail := rfl
@[simp] theorem trace_pop (st : PS) : st.pop.trace = st.trace := rfl
@[simp] theorem ctx_addError (st : PS) (m : Bytes) : (st.addError m).ctx = st.ctx := rfl
@[simp] theorem trace_addError (st : PS) (m : Bytes) : (st.addError m).trace = st.trace := rfl
@[simp] theorem ctx_addErrorAt (st : PS) (m : Bytes) (t : Token) : (st.addErrorAt m t).ctx = st.ctx := rfl
@[simp] theorem trace_addErrorAt (st : PS) (m : Bytes) (t : Token) : (st.addErrorAt m t).trace = st.trace := rfl
@[simp] theorem ctx_expectToken (ty : TokType) (st : PS) : (expectToken ty st).2.ctx = st.ctx := by unfold expectToken; split <;> simp
@[simp] theorem trace_expectToken (ty : TokType) (st : PS) : (expectToken ty st).2.trace = st.trace := by unfold expectToken; split <;> simp
@[simp] theorem ctx_expectSemi (cfg : PCfg) (st : PS) : (expectSemiASI cfg st).2.ctx = st.ctx := by
  unfold expectSemiASI; split <;> (try split) <;> (try split) <;> simp
@[simp] theorem trace_expectSemi (cfg : PCfg) (st : PS) : (expectSemiASI cfg st).2.trace = st.trace := by
  unfold expectSemiASI; split <;> (try split) <;> (try split) <;> simp
@[simp] theorem tokOf_some (t : Token) : tokOf (some t) = t := rfl

/-- what an error-free run of a call does: it leaves the context stack as it found it, returns a node whose first token
    is the cursor token, and appends to the trace the events `Spec/Events` assigns to that node. A loop is handed the
    nodes parsed so far and appends what the final list has beyond them. -/
def Call.Events (cfg : PCfg) : {k : Kind} → Call k → PS → k.type → PS → Prop
  | _, .stmtI is, st, x, st' => st'.ctx = st.ctx ∧ x.firstTok = some st.cur ∧
      st'.trace = st.trace ++ (stepS is st.ctx st.cur ++ x.innerEv cfg.stmtI cfg.exprI st.ctx)
  | _, .base, st, x, st' | _, .letS, st, x, st' | _, .funcS, st, x, st' | _, .ret, st, x, st' | _, .ifS, st, x, st'
  | _, .whileS, st, x, st' | _, .forS, st, x, st' | _, .block, st, x, st' | _, .exprS, st, x, st' =>
      st'.ctx = st.ctx ∧ x.firstTok = some st.cur ∧ st'.trace = st.trace ++ x.innerEv cfg.stmtI cfg.exprI st.ctx
  | _, .endStmt s, st, x, st' => x = s ∧ st'.ctx = st.ctx ∧ st'.trace = st.trace
  | _, .exprI is _, st, x, st' => st'.ctx = st.ctx ∧ x.firstTok = some st.cur ∧ x.isLet = false ∧
      st'.trace = st.trace ++ (stepE is st.ctx st.cur ++ x.innerEv cfg.stmtI cfg.exprI st.ctx)
  | _, .prefix, st, x, st' | _, .objLit, st, x, st' | _, .funcE, st, x, st' =>
      st'.ctx = st.ctx ∧ x.firstTok = some st.cur ∧ x.isLet = false ∧
      st'.trace = st.trace ++ x.innerEv cfg.stmtI cfg.exprI st.ctx
  | _, .funcTail tok _, st, x, st' => st'.ctx = st.ctx ∧ x.firstTok = some tok ∧ x.isLet = false ∧
      st'.trace = st.trace ++ x.innerEv cfg.stmtI cfg.exprI st.ctx
  | _, .letE, st, x, st' => st'.ctx = st.ctx ∧ x.firstTok = some st.cur ∧ x.isLet = true ∧
      st'.trace = st.trace ++ x.innerEv cfg.stmtI cfg.exprI st.ctx
  | _, .forInit, st, x, st' => st'.ctx = st.ctx ∧ st'.trace = st.trace ++ forInitEv cfg.stmtI cfg.exprI st.ctx x
  | _, .optExpr _, st, x, st' => st'.ctx = st.ctx ∧ st'.trace = st.trace ++
      (if x.firstTok.isNone then [] else stepE cfg.exprI st.ctx (tokOf x.firstTok) ++ x.innerEv cfg.stmtI cfg.exprI st.ctx)
  | _, .remaining left _, st, x, st' | _, .infix left, st, x, st' =>
      st'.ctx = st.ctx ∧ x.firstTok = left.firstTok ∧ (left.isLet = false → x.isLet = false) ∧
      ∃ sfx, x.innerEv cfg.stmtI cfg.exprI st.ctx = left.innerEv cfg.stmtI cfg.exprI st.ctx ++ sfx ∧
        st'.trace = st.trace ++ sfx
  | _, .exprList _, st, x, st' => st'.ctx = st.ctx ∧ st'.trace = st.trace ++ x.slotsEv cfg.stmtI cfg.exprI st.ctx
  | _, .exprListLoop acc, st, x, st' => st'.ctx = st.ctx ∧
      ∃ sfx, x.slotsEv cfg.stmtI cfg.exprI st.ctx = acc.slotsEv cfg.stmtI cfg.exprI st.ctx ++ sfx ∧
        st'.trace = st.trace ++ sfx
  | _, .objLoop acc, st, x, st' => st'.ctx = st.ctx ∧
      ∃ p sfx, x = some p ∧ p.slotsEv cfg.stmtI cfg.exprI st.ctx = acc.slotsEv cfg.stmtI cfg.exprI st.ctx ++ sfx ∧
        st'.trace = st.trace ++ sfx
  | _, .blockLoop acc, st, x, st' | _, .programLoop acc, st, x, st' => st'.ctx = st.ctx ∧
      ∃ sfx, x.stmtsEv cfg.stmtI cfg.exprI st.ctx = acc.stmtsEv cfg.stmtI cfg.exprI st.ctx ++ sfx ∧
        st'.trace = st.trace ++ sfx
  | _, .paramsLoop _, st, _, st' | _, .params, st, _, st' => st'.ctx = st.ctx ∧ st'.trace = st.trace

theorem Stmt.isNone_of_firstTok {s : Stmt} {t : Token} (h : s.firstTok = some t) : s.isNone = false := by
  cases s <;> simp_all [Stmt.firstTok, Stmt.isNone]

theorem Parse.events {cfg : PCfg} {k : Kind} {c : Call k} {st : PS} {x : k.type} {st' : PS}
    (h : Parse cfg False c st x st') : c.Events cfg st x st' := by
  induction h
  any_goals (exfalso; assumption)
  case base ih => unfold stmtCall at ih; split at ih <;> exact ih
  -- an interceptor records its event on the cursor token and hands on to the rest of the chain
  case stmtI_cons ih =>
    obtain ⟨hc, hf, ht⟩ := ih
    exact ⟨hc, hf, by simp [ht, stepS, event_eq]⟩
  case exprI_observe hk _ ih =>
    obtain ⟨hc, hf, hl, ht⟩ := ih
    exact ⟨hc, hf, hl, by simp [ht, stepE, effE, hk, event_eq]⟩
  -- a re-entrant one parses operand and operators itself: the interceptors behind it see nothing (`effE`)
  case exprI_reenter hk _ _ ih1 ih2 =>
    obtain ⟨hc, hf, hl, ht⟩ := ih1
    obtain ⟨hc', hf', hl', sfx, he, ht'⟩ := ih2
    rw [hc] at he
    exact ⟨hc'.trans hc, hf'.trans hf, hl' hl, by simp [ht', ht, he, stepE, effE, hk, event_eq]⟩
  case exprI_nil ih1 ih2 =>
    obtain ⟨hc, hf, hl, ht⟩ := ih1
    obtain ⟨hc', hf', hl', sfx, he, ht'⟩ := ih2
    rw [hc] at he
    exact ⟨hc'.trans hc, hf'.trans hf, hl' hl, by simp [ht', ht, he, stepE, effE]⟩
  -- the loops: what one round appends, then what the remaining rounds append
  case remaining_stop => exact ⟨rfl, rfl, id, [], by simp, by simp⟩
  case remaining_step ih1 ih2 =>
    obtain ⟨hc, hf, hl, sfx, he, ht⟩ := ih1
    obtain ⟨hc', hf', hl', sfx', he', ht'⟩ := ih2
    rw [hc] at he'
    exact ⟨hc'.trans hc, hf'.trans hf, hl' ∘ hl, sfx ++ sfx', by simp [he', he], by simp [ht', ht]⟩
  case exprListLoop_step ih1 ih2 =>
    obtain ⟨hc, hf, hl, ht⟩ := ih1
    obtain ⟨hc', sfx, he, ht'⟩ := ih2
    simp_all [Call.Events, ExprList.slotsEv_snoc]
  case objLoop_step ih1 ih2 ih3 =>
    obtain ⟨hc1, hf1, hl1, ht1⟩ := ih1
    obtain ⟨hc2, hf2, hl2, ht2⟩ := ih2
    obtain ⟨hc3, p, sfx, hp, he, ht3⟩ := ih3
    simp_all [Call.Events, PropList.slotsEv_snoc]
  case blockLoop_step ih1 ih2 | programLoop_step ih1 ih2 =>
    obtain ⟨hc, hf, ht⟩ := ih1
    -- the statement has a first token, so it is not nil and joins the list
    rw [Stmt.isNone_of_firstTok hf] at ih2
    obtain ⟨hc', sfx, he, ht'⟩ := ih2
    simp_all [Call.Events, StmtList.stmtsEv_snoc]
  case exprList ih1 ih2 =>
    obtain ⟨hc, hf, hl, ht⟩ := ih1
    obtain ⟨hc', sfx, he, ht'⟩ := ih2
    simp_all [Call.Events, ExprList.slotsEv]
  -- the brackets: the inner parse runs, and `Spec/Events` places its events, under the pushed context; `pop` takes it
  -- off again
  case block ih =>
    obtain ⟨hc, sfx, he, ht⟩ := ih
    simp_all [Call.Events, Stmt.innerEv, Stmt.firstTok, StmtList.stmtsEv]
  case funcS ih1 ih2 =>
    obtain ⟨hc, ht⟩ := ih1
    obtain ⟨hc', -, ht'⟩ := ih2
    simp_all [Call.Events, Stmt.innerEv, Stmt.firstTok]
  case funcTail ih1 ih2 =>
    obtain ⟨hc, ht⟩ := ih1
    obtain ⟨hc', -, ht'⟩ := ih2
    simp_all [Call.Events, Expr.innerEv, Expr.firstTok, Expr.isLet]
  -- apart from the rest because `Expr.isLet` of the initialiser has to stay folded
  case forS => simp_all [Call.Events, Stmt.innerEv, forInitEv, Stmt.firstTok, stepS]
  all_goals simp_all [Call.Events, Expr.innerEv, Stmt.innerEv, ExprList.slotsEv, PropList.slotsEv, PropList.slotsEv_snoc,
    forInitEv, Expr.isLet, Expr.firstTok, Stmt.firstTok, stepS]

theorem events_mutual (cfg : PCfg) :
    (∀ is st r, parseStatementI cfg is st = some r → st.elen ≤ r.2.elen ∧ ((r.2.ctx = st.ctx ∧ r.1.firstTok = some st.cur ∧ r.2.trace = st.trace ++ (stepS is st.ctx st.cur ++ r.1.innerEv cfg.stmtI cfg.exprI st.ctx)) ∨ st.elen < r.2.elen)) ∧
    (∀ st r, baseParseStatement cfg st = some r → st.elen ≤ r.2.elen ∧ ((r.2.ctx = st.ctx ∧ r.1.firstTok = some st.cur ∧ r.2.trace = st.trace ++ r.1.innerEv cfg.stmtI cfg.exprI st.ctx) ∨ st.elen < r.2.elen)) ∧
    (∀ st r, parseExpressionStatement cfg st = some r → st.elen ≤ r.2.elen ∧ ((r.2.ctx = st.ctx ∧ r.1.firstTok = some st.cur ∧ r.2.trace = st.trace ++ r.1.innerEv cfg.stmtI cfg.exprI st.ctx) ∨ st.elen < r.2.elen)) ∧
    (∀ is prec st r, parseExpressionI cfg is prec st = some r → st.elen ≤ r.2.elen ∧ ((r.2.ctx = st.ctx ∧ r.1.firstTok = some st.cur ∧ r.1.isLet = false ∧ r.2.trace = st.trace ++ (stepE is st.ctx st.cur ++ r.1.innerEv cfg.stmtI cfg.exprI st.ctx)) ∨ st.elen < r.2.elen)) ∧
    (∀ left prec st r, parseRemaining cfg left prec st = some r → st.elen ≤ r.2.elen ∧ ((r.2.ctx = st.ctx ∧ r.1.firstTok = left.firstTok ∧ (left.isLet = false → r.1.isLet = false) ∧ ∃ sfx, r.1.innerEv cfg.stmtI cfg.exprI st.ctx = left.innerEv cfg.stmtI cfg.exprI st.ctx ++ sfx ∧ r.2.trace = st.trace ++ sfx) ∨ st.elen < r.2.elen)) ∧
    (∀ left st r, parseInfixExpression cfg left st = some r → st.elen ≤ r.2.elen ∧ ((r.2.ctx = st.ctx ∧ r.1.firstTok = left.firstTok ∧ (left.isLet = false → r.1.isLet = false) ∧ ∃ sfx, r.1.innerEv cfg.stmtI cfg.exprI st.ctx = left.innerEv cfg.stmtI cfg.exprI st.ctx ++ sfx ∧ r.2.trace = st.trace ++ sfx) ∨ st.elen < r.2.elen)) ∧
    (∀ endTy st r, parseExpressionList cfg endTy st = some r → st.elen ≤ r.2.elen ∧ ((r.2.ctx = st.ctx ∧ r.2.trace = st.trace ++ r.1.slotsEv cfg.stmtI cfg.exprI st.ctx) ∨ st.elen < r.2.elen)) ∧
    (∀ acc st r, exprListLoop cfg acc st = some r → st.elen ≤ r.2.elen ∧ ((r.2.ctx = st.ctx ∧ ∃ sfx, r.1.slotsEv cfg.stmtI cfg.exprI st.ctx = acc.slotsEv cfg.stmtI cfg.exprI st.ctx ++ sfx ∧ r.2.trace = st.trace ++ sfx) ∨ st.elen < r.2.elen)) ∧
    (∀ st r, parsePrefixExpression cfg st = some r → st.elen ≤ r.2.elen ∧ ((r.2.ctx = st.ctx ∧ r.1.firstTok = some st.cur ∧ r.1.isLet = false ∧ r.2.trace = st.trace ++ r.1.innerEv cfg.stmtI cfg.exprI st.ctx) ∨ st.elen < r.2.elen)) ∧
    (∀ st r, parseFunctionExpression cfg st = some r → st.elen ≤ r.2.elen ∧ ((r.2.ctx = st.ctx ∧ r.1.firstTok = some st.cur ∧ r.1.isLet = false ∧ r.2.trace = st.trace ++ r.1.innerEv cfg.stmtI cfg.exprI st.ctx) ∨ st.elen < r.2.elen)) ∧
    (∀ st r, parseBlockStatement cfg st = some r → st.elen ≤ r.2.elen ∧ ((r.2.ctx = st.ctx ∧ r.1.firstTok = some st.cur ∧ r.2.trace = st.trace ++ r.1.innerEv cfg.stmtI cfg.exprI st.ctx) ∨ st.elen < r.2.elen)) ∧
    (∀ acc st r, blockLoop cfg acc st = some r → st.elen ≤ r.2.elen ∧ ((r.2.ctx = st.ctx ∧ ∃ sfx, r.1.stmtsEv cfg.stmtI cfg.exprI st.ctx = acc.stmtsEv cfg.stmtI cfg.exprI st.ctx ++ sfx ∧ r.2.trace = st.trace ++ sfx) ∨ st.elen < r.2.elen)) ∧
    (∀ st r, parseObjectLiteral cfg st = some r → st.elen ≤ r.2.elen ∧ ((r.2.ctx = st.ctx ∧ r.1.firstTok = some st.cur ∧ r.1.isLet = false ∧ r.2.trace = st.trace ++ r.1.innerEv cfg.stmtI cfg.exprI st.ctx) ∨ st.elen < r.2.elen)) ∧
    (∀ acc st r, objectLoop cfg acc st = some r → st.elen ≤ r.2.elen ∧ ((r.2.ctx = st.ctx ∧ ∃ p sfx, r.1 = some p ∧ p.slotsEv cfg.stmtI cfg.exprI st.ctx = acc.slotsEv cfg.stmtI cfg.exprI st.ctx ++ sfx ∧ r.2.trace = st.trace ++ sfx) ∨ st.elen < r.2.elen)) ∧
    (∀ st r, parseForStatement cfg st = some r → st.elen ≤ r.2.elen ∧ ((r.2.ctx = st.ctx ∧ r.1.firstTok = some st.cur ∧ r.2.trace = st.trace ++ r.1.innerEv cfg.stmtI cfg.exprI st.ctx) ∨ st.elen < r.2.elen)) ∧
    (∀ st r, parseForInit cfg st = some r → st.elen ≤ r.2.elen ∧ ((r.2.ctx = st.ctx ∧ r.2.trace = st.trace ++ forInitEv cfg.stmtI cfg.exprI st.ctx r.1) ∨ st.elen < r.2.elen)) ∧
    (∀ st r, parseLetExpression cfg st = some r → st.elen ≤ r.2.elen ∧ ((r.2.ctx = st.ctx ∧ r.1.firstTok = some st.cur ∧ r.1.isLet = true ∧ r.2.trace = st.trace ++ r.1.innerEv cfg.stmtI cfg.exprI st.ctx) ∨ st.elen < r.2.elen)) ∧
    (∀ st r, parseWhileStatement cfg st = some r → st.elen ≤ r.2.elen ∧ ((r.2.ctx = st.ctx ∧ r.1.firstTok = some st.cur ∧ r.2.trace = st.trace ++ r.1.innerEv cfg.stmtI cfg.exprI st.ctx) ∨ st.elen < r.2.elen)) ∧
    (∀ st r, parseIfStatement cfg st = some r → st.elen ≤ r.2.elen ∧ ((r.2.ctx = st.ctx ∧ r.1.firstTok = some st.cur ∧ r.2.trace = st.trace ++ r.1.innerEv cfg.stmtI cfg.exprI st.ctx) ∨ st.elen < r.2.elen)) ∧
    (∀ st r, parseReturnStatement cfg st = some r → st.elen ≤ r.2.elen ∧ ((r.2.ctx = st.ctx ∧ r.1.firstTok = some st.cur ∧ r.2.trace = st.trace ++ r.1.innerEv cfg.stmtI cfg.exprI st.ctx) ∨ st.elen < r.2.elen)) ∧
    (∀ st r, parseFunctionStatement cfg st = some r → st.elen ≤ r.2.elen ∧ ((r.2.ctx = st.ctx ∧ r.1.firstTok = some st.cur ∧ r.2.trace = st.trace ++ r.1.innerEv cfg.stmtI cfg.exprI st.ctx) ∨ st.elen < r.2.elen)) ∧
    (∀ st r, parseLetStatement cfg st = some r → st.elen ≤ r.2.elen ∧ ((r.2.ctx = st.ctx ∧ r.1.firstTok = some st.cur ∧ r.2.trace = st.trace ++ r.1.innerEv cfg.stmtI cfg.exprI st.ctx) ∨ st.elen < r.2.elen)) :=
  Parse.run_mutual (M := fun c st r => st.elen ≤ r.2.elen ∧ (c.Events cfg st r.1 r.2 ∨ st.elen < r.2.elen))
    fun _ _ _ h => (Parse.of_run h).ok_or_err Parse.events

/-- THE TRACE IS A FUNCTION OF THE TREE: after an error-free parse the interceptor events are exactly the events the
    specification assigns to the returned tree — every statement and expression slot announced once, in source order,
    to the interceptors in installation order, on the slot's first token, with the context stack of its place -/
theorem trace_is_the_tree's (cfg : PCfg) (toks : List Token) (r : ParseResult)
    (h : parseProgram cfg toks = some r) (hok : r.errors = []) :
    r.final.trace = r.prog.stmtsEv cfg.stmtI cfg.exprI [.global] ∧ r.final.ctx = [.global] := by
  unfold parseProgram at h
  obtain ⟨⟨stmts, st⟩, h1, h2⟩ := bind_some h
  cases h2
  have hp := Parse.of_run (c := .programLoop .nil) h1
  obtain ⟨c, sfx, e, t⟩ := (hp.errorFree (by simp [PS.elen, show st.errors = [] from hok])).events
  have e' : stmts.stmtsEv cfg.stmtI cfg.exprI [.global] = sfx := by simpa [PS.init, StmtList.stmtsEv] using e
  exact ⟨by simpa [PS.init, e'] using t, c⟩

end Xjs
