import XjsModel.Proofs.LexPrintTok
import XjsModel.Proofs.PrinterCompact
/-
  Lexing what the printer spells: the writer invariant `WInv cw ks fc` — in compact mode, with nothing pending,
  the text written so far, followed by any text `r` that the follow predicate `fc` admits, lexes to the keys `ks` and
  leaves `r` — and one lemma per writer operation.
-/
namespace Xjs.LP
open Xjs

structure WInv (cw : CW) (ks : List Key) (fc : Bytes → Bool) : Prop where
  compact : cw.pretty = false
  pend : cw.pendings = []
  lex : ∀ r, fc r = true → LexTo (cw.out ++ r) ks r
  /-- a sign that the follow predicate rejects is the last byte written (`separateSigns` looks at exactly that) -/
  sign : ∀ c r, (c = 43 ∨ c = 45) → fc (c :: r) = false → cw.out.getLast? = some c

def anyFol : Bytes → Bool := fun _ => true

theorem WInv.init (cw : CW) (hp : cw.pretty = false) (hq : cw.pendings = []) (ho : cw.out = []) : WInv cw [] anyFol :=
  ⟨hp, hq, fun r _ => by rw [ho]; exact LexTo.refl r, fun _ _ _ h => by cases h⟩

theorem WInv.congr {cw cw' : CW} {ks : List Key} {fc : Bytes → Bool} (h : WInv cw ks fc) (hp : cw'.pretty = cw.pretty)
    (hq : cw'.pendings = cw.pendings) (ho : cw'.out = cw.out) : WInv cw' ks fc :=
  ⟨hp.trans h.compact, hq.trans h.pend, fun r hr => by rw [ho]; exact h.lex r hr, fun c r hc hf => by rw [ho]; exact h.sign c r hc hf⟩

/-! ### operations that write nothing in compact mode -/

theorem WInv.mapAdvance {cw : CW} {ks fc} (h : WInv cw ks fc) (f : Mapper → Mapper) : WInv (cw.mapAdvance f) ks fc := by
  rw [mapAdvance_eq]; exact h.congr rfl rfl rfl

theorem WInv.writeSpace {cw : CW} {ks fc} (h : WInv cw ks fc) : WInv cw.writeSpace ks fc := by
  rw [writeSpace_compact h.compact]; exact h
theorem WInv.writeNewline {cw : CW} {ks fc} (h : WInv cw ks fc) : WInv cw.writeNewline ks fc := by
  rw [writeNewline_compact h.compact]; exact h
theorem WInv.writeIndent {cw : CW} {ks fc} (h : WInv cw ks fc) : WInv cw.writeIndent ks fc := by
  rw [writeIndent_compact h.compact]; exact h
theorem WInv.increaseIndent {cw : CW} {ks fc} (h : WInv cw ks fc) : WInv cw.increaseIndent ks fc := by
  rw [increaseIndent_compact h.compact]; exact h
theorem WInv.decreaseIndent {cw : CW} {ks fc} (h : WInv cw ks fc) : WInv cw.decreaseIndent ks fc := by
  rw [decreaseIndent_compact h.compact]; exact h
theorem WInv.leadingComments {cw : CW} {ks fc} (h : WInv cw ks fc) (cs : List Bytes) : WInv (cw.leadingComments cs) ks fc := by
  rw [leadingComments_compact cw cs h.compact]; exact h
theorem WInv.addMapping {cw : CW} {ks fc} (h : WInv cw ks fc) (a b : Nat) : WInv (cw.addMapping a b) ks fc := h.mapAdvance _
theorem WInv.addNamedMapping {cw : CW} {ks fc} (h : WInv cw ks fc) (a b : Nat) (n : Bytes) : WInv (cw.addNamedMapping a b n) ks fc :=
  h.mapAdvance _
theorem WInv.head {cw : CW} {ks fc} (h : WInv cw ks fc) (t : Token) : WInv (cw.head t) ks fc := by
  rw [head_compact cw t h.compact]; exact h.addMapping _ _
theorem WInv.newlineIf {cw : CW} {ks fc} (h : WInv cw ks fc) (b : Bool) : WInv (cw.newlineIf b) ks fc := by
  unfold CW.newlineIf; split
  · exact h
  · exact h.writeNewline

/-- the same keys, grouped as the statement at hand wants them -/
theorem WInv.regroup {cw : CW} {ks ks' : List Key} {fc} (h : WInv cw ks fc)
    (e : ks = ks' := by
      simp only [List.map_cons, List.map_append, List.map_nil, List.append_assoc, List.cons_append, List.nil_append]) :
    WInv cw ks' fc := e ▸ h

/-! ### writing text -/

/-- what three fields of the writer say after writing `w` -/
def Fields (cw cw' : CW) (w : Bytes) : Prop := cw'.pretty = cw.pretty ∧ cw'.pendings = [] ∧ cw'.out = cw.out ++ w

theorem Fields.str {cw : CW} (h : cw.pendings = []) (w : Bytes) : Fields cw (cw.writeString w) w := by
  rw [writeString_eq, h]; exact ⟨rfl, rfl, by simp [flushBytes]⟩
theorem Fields.rune {cw : CW} (h : cw.pendings = []) (c : Nat) : Fields cw (cw.writeRune c) [c] := by
  rw [writeRune_eq, h]; exact ⟨rfl, rfl, by simp [flushBytes]⟩
theorem Fields.trans {a b c : CW} {w1 w2 : Bytes} (h1 : Fields a b w1) (h2 : Fields b c w2) : Fields a c (w1 ++ w2) :=
  ⟨h2.1.trans h1.1, h2.2.1, by rw [h2.2.2, h1.2.2, List.append_assoc]⟩
theorem Fields.head {cw : CW} (hp : cw.pretty = false) (hq : cw.pendings = []) (t : Token) : Fields cw (cw.head t) [] := by
  rw [head_compact cw t hp, CW.addMapping, mapAdvance_eq]; exact ⟨rfl, hq, by simp⟩

/-- the general step: the text `w` is the spelling of one token with key `k` and follow predicate `fk` -/
theorem WInv.token {cw cw' : CW} {ks fc} (h : WInv cw ks fc) (w : Bytes) (k : Key) (fk : Bytes → Bool)
    (hf : Fields cw cw' w)
    (htok : ∀ r, fk r = true → ∀ s : LS, s.rest = w ++ r → key3 (nextToken s) = (k, r, false, [])) (hk : k.1 ≠ .eof)
    (hpre : ∀ r, fk r = true → fc (w ++ r) = true)
    (hsign : ∀ c r, (c = 43 ∨ c = 45) → fk (c :: r) = false → w.getLast? = some c) : WInv cw' (ks ++ [k]) fk := by
  refine ⟨hf.1.trans h.compact, hf.2.1, fun r hr => ?_, fun c r hc hfk => ?_⟩
  · rw [hf.2.2, List.append_assoc]
    exact (h.lex (w ++ r) (hpre r hr)).snoc (htok r hr) hk
  · rw [hf.2.2, List.getLast?_append, hsign c r hc hfk]; rfl

/-- a separating blank -/
theorem WInv.space {cw : CW} {ks fc} (h : WInv cw ks fc) (hpre : ∀ r, fc (32 :: r) = true) : WInv (cw.writeRune 32) ks anyFol := by
  obtain ⟨h1, h2, h3⟩ := Fields.rune h.pend 32
  refine ⟨h1.trans h.compact, h2, fun r _ => ?_, fun _ _ _ hf => by cases hf⟩
  rw [h3, List.append_assoc]
  exact (h.lex (32 :: r) (hpre r)).blank

end Xjs.LP
