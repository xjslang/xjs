import XjsModel.Proofs.ParserLen
/-
  Tolerant vs strict mode (C13 a): definitions and primitive lemmas.
-/
namespace Xjs

def PCfg.strict (cfg : PCfg) : PCfg := { cfg with tolerant := false }
def PCfg.tol (cfg : PCfg) : PCfg := { cfg with tolerant := true }

@[simp] theorem strict_stmtI (cfg : PCfg) : cfg.strict.stmtI = cfg.stmtI := rfl
@[simp] theorem strict_exprI (cfg : PCfg) : cfg.strict.exprI = cfg.exprI := rfl
@[simp] theorem strict_tolerant (cfg : PCfg) : cfg.strict.tolerant = false := rfl
@[simp] theorem strict_smart (cfg : PCfg) : cfg.strict.smart = cfg.smart := rfl
@[simp] theorem strict_precs (cfg : PCfg) : cfg.strict.precs = cfg.precs := rfl
@[simp] theorem strict_prefixFns (cfg : PCfg) : cfg.strict.prefixFns = cfg.prefixFns := rfl
@[simp] theorem strict_infixFns (cfg : PCfg) : cfg.strict.infixFns = cfg.infixFns := rfl
@[simp] theorem tol_stmtI (cfg : PCfg) : cfg.tol.stmtI = cfg.stmtI := rfl
@[simp] theorem tol_exprI (cfg : PCfg) : cfg.tol.exprI = cfg.exprI := rfl
@[simp] theorem tol_tolerant (cfg : PCfg) : cfg.tol.tolerant = true := rfl
@[simp] theorem tol_smart (cfg : PCfg) : cfg.tol.smart = cfg.smart := rfl
@[simp] theorem tol_precs (cfg : PCfg) : cfg.tol.precs = cfg.precs := rfl
@[simp] theorem tol_prefixFns (cfg : PCfg) : cfg.tol.prefixFns = cfg.prefixFns := rfl
@[simp] theorem tol_infixFns (cfg : PCfg) : cfg.tol.infixFns = cfg.infixFns := rfl
@[simp] theorem tol_peekPrecedence (cfg : PCfg) (st : PS) : peekPrecedence cfg.tol st = peekPrecedence cfg.strict st := rfl
@[simp] theorem tol_curPrecedence (cfg : PCfg) (st : PS) : curPrecedence cfg.tol st = curPrecedence cfg.strict st := rfl

theorem tol_lt_peekPrec (cfg : PCfg) (st : PS) (prec : Nat) :
    decide (prec < peekPrecedence cfg.tol st) = decide (prec < peekPrecedence cfg.strict st) := rfl

/-- where strict mode accepts the statement end, tolerant mode does exactly the same -/
theorem tol_expectSemi_of_ok (cfg : PCfg) (st : PS) (h : (expectSemiASI cfg.strict st).1 = true) :
    expectSemiASI cfg.tol st = expectSemiASI cfg.strict st := by
  unfold expectSemiASI at h ⊢
  by_cases h1 : (st.peek.type == .semicolon) = true
  · simp [h1]
  · by_cases h2 : shouldInsertSemicolon st = true
    · simp [h1, h2]
    · simp [h1, h2] at h

/-- where strict mode refuses, it records an error -/
theorem strict_expectSemi_err (cfg : PCfg) (st : PS) (h : (expectSemiASI cfg.strict st).1 = false) :
    semiErr cfg.strict st = 1 := semiErr_of_false h

/-- in tolerant mode the end of the input closes a block -/
theorem tol_unclosed (cfg : PCfg) (st : PS) : unclosed cfg.tol st = false := by simp [unclosed]

end Xjs
