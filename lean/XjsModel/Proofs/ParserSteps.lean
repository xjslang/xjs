import XjsModel.Model.Parser
/-
  The *frame* of the parser: every parse function, whenever it returns, has changed the parser state only
  through the primitive state operations, used in a well-bracketed way:

    next                       (advance one token)
    addErrorAt                 (append one error located at a token)
    trace                      (append one interceptor event)
    push c … pop               (context stack, always as a bracket around a sub-parse)
    curPrec := p … := old      (current expression precedence, always as a bracket around a sub-parse)

  `Steps s s'` is the free relation generated by these. `Parse.steps` (ParserFrame) shows `Steps st st'` for every
  call of the parser; every *frame property* (context balance, error-list monotonicity, error ranges are token
  ranges, the cursor never moves backwards, precedence restored, …) is then a short induction on `Steps`.
-/
namespace Xjs

inductive Steps : PS → PS → Prop
  | refl (s : PS) : Steps s s
  | next {s s' : PS} : Steps s s' → Steps s s'.next
  | addErr {s s' : PS} (msg : Bytes) (t : Token) (ht : t = s'.cur ∨ t = s'.peek) : Steps s s' → Steps s (s'.addErrorAt msg t)
  | trace {s s' : PS} (b : Bool) (id : Nat) : Steps s s' → Steps s { s' with trace := s'.trace ++ [s'.event b id] }
  | ctxBracket {s s1 s2 : PS} (c : Ctx) : Steps s s1 → Steps (s1.push c) s2 → Steps s s2.pop
  | precBracket {s s1 s2 : PS} (p : Nat) (id : Nat) :
      Steps s s1 → Steps { s1 with curPrec := p, trace := s1.trace ++ [s1.event true id] } s2 →
      Steps s { s2 with curPrec := s1.curPrec }

theorem Steps.trans {a b c : PS} (h1 : Steps a b) (h2 : Steps b c) : Steps a c := by
  induction h2 with
  | refl => exact h1
  | next _ ih => exact .next (ih h1)
  | addErr msg t ht _ ih => exact .addErr msg t ht (ih h1)
  | trace b id _ ih => exact .trace b id (ih h1)
  | ctxBracket c _ h ih1 _ => exact .ctxBracket c (ih1 h1) h
  | precBracket p id _ h ih1 _ => exact .precBracket p id (ih1 h1) h

@[simp] theorem cur_addError (st : PS) (m : Bytes) : (st.addError m).cur = st.cur := rfl

theorem steps_addError {s s' : PS} (msg : Bytes) (h : Steps s s') : Steps s (s'.addError msg) :=
  .addErr msg _ (.inl rfl) h

theorem steps_expectToken {s s' : PS} (ty : TokType) (h : Steps s s') : Steps s (expectToken ty s').2 := by
  unfold expectToken
  split
  · exact .next h
  · exact .addErr _ _ (.inr rfl) h

theorem steps_expectSemi {s s' : PS} (cfg : PCfg) (h : Steps s s') : Steps s (expectSemiASI cfg s').2 := by
  unfold expectSemiASI
  split
  · exact .next h
  · split
    · exact h
    · split
      · exact h
      · exact .addErr _ _ (.inr rfl) h

theorem bind_some {α β} {x : Option α} {f : α → Option β} {r : β} (h : x >>= f = some r) :
    ∃ a, x = some a ∧ f a = some r := by
  cases x with
  | none => simp at h
  | some a => exact ⟨a, rfl, h⟩

theorem steps_expectToken' {s s' s2 : PS} {ty : TokType} {ok : Bool} (h : expectToken ty s' = (ok, s2))
    (hs : Steps s s') : Steps s s2 := by
  rw [show s2 = (expectToken ty s').2 by rw [h]]; exact steps_expectToken ty hs
theorem steps_expectSemi' {s s' s2 : PS} {cfg : PCfg} {ok : Bool} (h : expectSemiASI cfg s' = (ok, s2))
    (hs : Steps s s') : Steps s s2 := by
  rw [show s2 = (expectSemiASI cfg s').2 by rw [h]]; exact steps_expectSemi cfg hs

end Xjs
