import XjsModel.Proofs.ParserLen
import XjsModel.Spec.Flat
/-
  Token faithfulness (C12 / C01 / C02): bookkeeping lemmas about the ghost field `consumed`.
  `FC st` = the tokens the cursor has moved past, `FL st` = those plus the current token; both without `;` and `,`.
-/
namespace Xjs

def PS.log (st : PS) : List TokType := st.consumed ++ [st.cur.type]
/-- the tokens the cursor has moved past, without `;` and `,` -/
def FC (st : PS) : List TokType := F st.consumed
/-- the tokens the cursor has moved past and the one it stands on, without `;` and `,` -/
def FL (st : PS) : List TokType := F st.log

theorem FL_eq (st : PS) : FL st = FC st ++ F [st.cur.type] := by simp [FL, FC, PS.log]
theorem FC_cur (st : PS) : FC st ++ F [st.cur.type] = FL st := (FL_eq st).symm
theorem FC_cur_append (st : PS) (Z : List TokType) : FC st ++ (F [st.cur.type] ++ Z) = FL st ++ Z := by
  rw [← List.append_assoc, FC_cur]

theorem next_consumed (st : PS) : st.next.consumed = st.consumed ++ [st.cur.type] := by
  unfold PS.next PS.cur; split <;> simp_all
@[simp] theorem FC_next (st : PS) : FC st.next = FL st := by simp [FC, FL, PS.log, next_consumed]
@[simp] theorem FL_next (st : PS) : FL st.next = FL st ++ F [st.peek.type] := by
  simp only [FL, PS.log, next_consumed, next_cur, F_append]

@[simp] theorem FC_push (st : PS) (c : Ctx) : FC (st.push c) = FC st := rfl
@[simp] theorem FL_push (st : PS) (c : Ctx) : FL (st.push c) = FL st := rfl
@[simp] theorem FC_pop (st : PS) : FC st.pop = FC st := rfl
@[simp] theorem FL_pop (st : PS) : FL st.pop = FL st := rfl
@[simp] theorem FC_addError (st : PS) (m : Bytes) : FC (st.addError m) = FC st := rfl
@[simp] theorem FL_addError (st : PS) (m : Bytes) : FL (st.addError m) = FL st := rfl
@[simp] theorem FC_set (st : PS) (p : Nat) (t : List Event) : FC { st with curPrec := p, trace := t } = FC st := rfl
@[simp] theorem FL_set (st : PS) (p : Nat) (t : List Event) : FL { st with curPrec := p, trace := t } = FL st := rfl
@[simp] theorem FC_setPrec (st : PS) (p : Nat) : FC { st with curPrec := p } = FC st := rfl
@[simp] theorem FL_setPrec (st : PS) (p : Nat) : FL { st with curPrec := p } = FL st := rfl
@[simp] theorem FC_setTrace (st : PS) (t : List Event) : FC { st with trace := t } = FC st := rfl
@[simp] theorem FL_setTrace (st : PS) (t : List Event) : FL { st with trace := t } = FL st := rfl
@[simp] theorem cur_push (st : PS) (c : Ctx) : (st.push c).cur = st.cur := rfl
@[simp] theorem peek_push (st : PS) (c : Ctx) : (st.push c).peek = st.peek := rfl
@[simp] theorem cur_pop (st : PS) : st.pop.cur = st.cur := rfl
@[simp] theorem cur_set (st : PS) (p : Nat) (t : List Event) : PS.cur { st with curPrec := p, trace := t } = st.cur := rfl
@[simp] theorem cur_setPrec (st : PS) (p : Nat) : PS.cur { st with curPrec := p } = st.cur := rfl
@[simp] theorem cur_setTrace (st : PS) (t : List Event) : PS.cur { st with trace := t } = st.cur := rfl
@[simp] theorem peek_set (st : PS) (p : Nat) (t : List Event) : PS.peek { st with curPrec := p, trace := t } = st.peek := rfl
@[simp] theorem peek_setPrec (st : PS) (p : Nat) : PS.peek { st with curPrec := p } = st.peek := rfl
@[simp] theorem peek_setTrace (st : PS) (t : List Event) : PS.peek { st with trace := t } = st.peek := rfl
@[simp] theorem identOfCur_tok (st : PS) : (identOfCur st).tok = st.cur := rfl

/-- a successful expectation consumed exactly the expected token -/
theorem expectToken_ok {ty : TokType} {st : PS} (h : (expectToken ty st).1 = true) :
    (expectToken ty st).2 = st.next ∧ st.peek.type = ty := by
  unfold expectToken at h ⊢
  split at h
  · rename_i hc; simp only [hc, if_true]; exact ⟨trivial, by simpa using hc⟩
  · simp at h

theorem FL_expectToken_ok {ty : TokType} {st : PS} (h : (expectToken ty st).1 = true) :
    FL (expectToken ty st).2 = FL st ++ F [ty] := by
  obtain ⟨a, b⟩ := expectToken_ok h
  rw [a, FL_next, b]
theorem cur_expectToken_ok {ty : TokType} {st : PS} (h : (expectToken ty st).1 = true) :
    (expectToken ty st).2.cur.type = ty := by
  obtain ⟨a, b⟩ := expectToken_ok h
  rw [a, next_cur, b]
theorem FC_expectToken_ok {ty : TokType} {st : PS} (h : (expectToken ty st).1 = true) :
    FC (expectToken ty st).2 = FL st := by
  obtain ⟨a, _⟩ := expectToken_ok h
  rw [a, FC_next]

/-- an accepted statement end consumed at most a `;` -/
theorem FL_expectSemi_ok {cfg : PCfg} {st : PS} (h : (expectSemiASI cfg st).1 = true) :
    FL (expectSemiASI cfg st).2 = FL st := by
  unfold expectSemiASI at h ⊢
  by_cases h1 : (st.peek.type == .semicolon) = true
  · simp only [h1, if_true, FL_next]
    have : st.peek.type = .semicolon := by simpa using h1
    rw [this]; simp
  · by_cases h2 : shouldInsertSemicolon st = true
    · simp [h1, h2]
    · by_cases h3 : cfg.tolerant = true
      · simp [h1, h2, h3]
      · simp [h1, h2, h3] at h

end Xjs
