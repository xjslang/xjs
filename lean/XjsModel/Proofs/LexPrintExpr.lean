import XjsModel.Proofs.LexPrintWriter
import XjsModel.Proofs.RaDefs
/-
  Lexing what the printer spells: the compact printer's text for an expression tree lexes to the tree's tokens
  (`SE.toks`, the sequence the print → parse theorems of C03 start from).
-/
namespace Xjs.LP
open Xjs Xjs.RA

def keyOf (t : Token) : Key := (t.type, t.lit)

/-- the literal of the token is what the lexer produces for a token of its type: the fixed spelling for operators,
    delimiters and keywords; an identifier; a number / string / backtick literal that re-lexes as itself -/
def tokOk (t : Token) : Prop :=
  match t.type with
  | .ident => identOk t.lit = true
  | .int => numOk t.lit .int
  | .float => numOk t.lit .float
  | .string => strOk t.lit
  | .rawString => rawOk t.lit
  | ty => canon ty ≠ [] ∧ t.lit = canon ty

/-- bytes an expression can start with, the signs `+` `-` apart (those are `separateSigns`' business) -/
def startByte (c : Nat) : Bool := isWordByte c || c == 34 || c == 96 || c == 40 || c == 91 || c == 123 || c == 33 || c == 32

/-- the follow predicate admits everything an expression can start with -/
def StartOK (fc : Bytes → Bool) : Prop := ∀ r, startByte (r.headD 0) = true → fc r = true
/-- the follow predicate admits everything that may stand behind a number -/
def EndOK (fc : Bytes → Bool) : Prop := ∀ r, fol .int r = true → fc r = true

/-- the same, digits only when `d` holds (behind the dot of a member access the printer never writes a digit) -/
def StartOKd (d : Bool) (fc : Bytes → Bool) : Prop :=
  ∀ r, startByte (r.headD 0) = true → (isDigit (r.headD 0) = true → d = true) → fc r = true
theorem StartOK.d {fc : Bytes → Bool} (h : StartOK fc) (d : Bool) : StartOKd d fc := fun r hr _ => h r hr

theorem startOK_any : StartOK anyFol := fun _ _ => rfl
theorem endOK_any : EndOK anyFol := fun _ _ => rfl

theorem pre_start {fc : Bytes → Bool} (hs : StartOK fc) (c : Nat) (w : Bytes) (h : startByte c = true) : ∀ r, fc ((c :: w) ++ r) = true :=
  fun r => hs _ (by simpa using h)

theorem pre_end {fc : Bytes → Bool} (he : EndOK fc) (c : Nat) (w : Bytes) (h : isWordByte c = false) (h46 : c ≠ 46) :
    ∀ r, fc ((c :: w) ++ r) = true :=
  fun r => he _ (by simp [fol, h, h46])

theorem pre_dot {fc : Bytes → Bool} (he : EndOK fc) (r : Bytes) (h : isDigit (r.headD 0) = false) : fc (46 :: r) = true :=
  he _ (by
    have : isWordByte 46 = false := by decide
    simp [fol, this]; simpa using h)

/-- only `+` and `-` reject a sign behind them -/
theorem fol_sign (ty : TokType) (c : Nat) (r : Bytes) (hc : c = 43 ∨ c = 45) (h : fol ty (c :: r) = false) :
    (ty = .plus ∧ c = 43) ∨ (ty = .minus ∧ c = 45) := by
  rcases hc with rfl | rfl <;> cases ty <;> simp [fol, isWordByte, isLetter, isDigit] at h ⊢

/-- writing the fixed spelling of a token -/
theorem WInv.fixed {cw cw' : CW} {ks fc} (h : WInv cw ks fc) (ty : TokType) (hc : canon ty ≠ [])
    (hf : Fields cw cw' (canon ty)) (hpre : ∀ r, fc (canon ty ++ r) = true) : WInv cw' (ks ++ [(ty, canon ty)]) (fol ty) := by
  refine h.token (canon ty) (ty, canon ty) (fol ty) hf (fun r hr s hs => fixed_lexes ty hc r hr s hs) ?_ (fun r _ => hpre r) ?_
  · intro e; simp only at e; subst e; exact hc rfl
  · intro c r hcs hfl
    rcases fol_sign ty c r hcs hfl with ⟨rfl, rfl⟩ | ⟨rfl, rfl⟩ <;> rfl

theorem tokOk_fixed (t : Token) (h : tokOk t) (hc : canon t.type ≠ []) : t.lit = canon t.type := by
  cases hty : t.type <;> simp only [tokOk, hty] at h <;> first
    | exact h.2
    | (rw [hty] at hc; exact absurd rfl hc)

theorem keyOf_fixed (t : Token) (h : tokOk t) (ty : TokType) (hty : t.type = ty) (hc : canon ty ≠ []) :
    keyOf t = (ty, canon ty) := by
  subst hty; simp [keyOf, tokOk_fixed t h hc]

/-- writing the one byte that spells the token `T` -/
theorem WInv.rune {cw : CW} {ks fc} (h : WInv cw ks fc) (T : Token) {ty : TokType} {c : Nat} (hk : keyOf T = (ty, [c]))
    (hpre : ∀ r, fc (c :: r) = true) (hcan : canon ty = [c] := by rfl) : WInv (cw.writeRune c) (ks ++ [keyOf T]) (fol ty) := by
  rw [hk, ← hcan]
  exact h.fixed ty (by rw [hcan]; exact List.cons_ne_nil _ _) (by rw [hcan]; exact Fields.rune h.pend c) (by rw [hcan]; exact hpre)

/-- … behind a text that anything may follow which may follow a number -/
theorem WInv.delim {cw : CW} {ks fc} (h : WInv cw ks fc) (he : EndOK fc) (T : Token) {ty : TokType} {c : Nat}
    (hk : keyOf T = (ty, [c])) (hc : isWordByte c = false := by decide) (h46 : c ≠ 46 := by decide)
    (hcan : canon ty = [c] := by rfl) : WInv (cw.writeRune c) (ks ++ [keyOf T]) (fol ty) :=
  h.rune T hk (pre_end he c [] hc h46) hcan

theorem sb_null : strBytes "null" = canon .null := by decide +kernel

theorem endOK_word : EndOK (fol .ident) := by
  intro r h; simp only [fol, Bool.and_eq_true] at h ⊢; exact h.1
theorem endOK_num : EndOK (fol .int) := fun _ h => h
theorem endOK_kw (ty : TokType) (h : fol ty = fol .ident) : EndOK (fol ty) := by rw [h]; exact endOK_word

theorem nosign_word (c : Nat) (r : Bytes) (hc : c = 43 ∨ c = 45) : fol .ident (c :: r) = true := by
  rcases hc with rfl | rfl <;> simp [fol, isWordByte, isLetter, isDigit]
theorem nosign_num (c : Nat) (r : Bytes) (hc : c = 43 ∨ c = 45) : fol .int (c :: r) = true := by
  rcases hc with rfl | rfl <;> simp [fol, isWordByte, isLetter, isDigit]

/-- a literal-class token (`w` is its spelling, starting with a byte an expression can start with) -/
theorem WInv.lit {cw cw' : CW} {ks fc} (h : WInv cw ks fc) {d : Bool} (hs : StartOKd d fc) (k : Key) (c : Nat) (w : Bytes) (fk : Bytes → Bool)
    (hf : Fields cw cw' (c :: w)) (hsb : startByte c = true) (hd : isDigit c = true → d = true)
    (htok : ∀ r, fk r = true → ∀ s : LS, s.rest = (c :: w) ++ r → key3 (nextToken s) = (k, r, false, [])) (hk : k.1 ≠ .eof)
    (hnosign : ∀ c r, (c = 43 ∨ c = 45) → fk (c :: r) = true) : WInv cw' (ks ++ [k]) fk :=
  h.token (c :: w) k fk hf htok hk (fun r _ => hs _ (by simpa using hsb) (by simpa using hd))
    (fun c r hc hfk => by rw [hnosign c r hc] at hfk; cases hfk)

theorem startByte_letter (c : Nat) (h : isLetter c = true) : startByte c = true := by simp [startByte, isWordByte, h]
theorem startByte_digit (c : Nat) (h : isDigit c = true) : startByte c = true := by simp [startByte, isWordByte, h]

/-! ## atoms: identifier, number, string, backtick string, `true` / `false` / `null` -/

/-- `writeIdent` for a name token -/
theorem name_lex (n : Token) (hty : n.type = .ident) (hn : tokOk n) {cw : CW} {ks fc} {d : Bool} (h : WInv cw ks fc)
    (hs : StartOKd d fc) : WInv (writeIdent (identOf n) cw) (ks ++ [keyOf n]) (fol .ident) := by
  have hid : identOk n.lit = true := by simpa only [tokOk, hty] using hn
  obtain ⟨c, w, hl⟩ : ∃ c w, n.lit = c :: w := by
    cases hl : n.lit with
    | nil => rw [hl] at hid; cases hid
    | cons c w => exact ⟨c, w, rfl⟩
  rw [hl] at hid
  have hc : isLetter c = true := by simp [identOk] at hid; exact hid.1.1
  have h1 := (h.leadingComments n.comments).addNamedMapping n.sl n.sc n.lit
  have hk : keyOf n = (.ident, c :: w) := by simp [keyOf, hty, hl]
  simp only [writeIdent, identOf]
  rw [hk, hl]; rw [hl] at h1
  exact h1.lit hs _ c w _ (Fields.str h1.pend _) (startByte_letter c hc) (fun e => by rw [letter_not_digit c hc] at e; cases e)
    (fun r hr s hs' => ident_lexes (c :: w) r hid hr s hs') (by simp) nosign_word

/-- a keyword written behind its trivia: `true`, `false`, `null`, and the keywords that open a statement -/
theorem kw_step {cw : CW} {ks fc} {d : Bool} (h : WInv cw ks fc) (hs : StartOKd d fc) (t : Token) (ty : TokType) (hty : t.type = ty)
    (ht : tokOk t) (hc : canon ty ≠ []) (hl : isLetter ((canon ty).headD 0) = true) (str : Bytes) (hstr : str = canon ty) :
    WInv ((cw.head t).writeString str) (ks ++ [keyOf t]) (fol ty) := by
  rw [hstr, keyOf_fixed t ht ty hty hc]
  refine (h.head t).fixed ty hc (Fields.str (h.head t).pend _) (fun r => ?_)
  cases hcn : canon ty with
  | nil => exact absurd hcn hc
  | cons c w =>
    rw [hcn] at hl
    have hc : isLetter c = true := by simpa using hl
    exact hs _ (startByte_letter c hc) (fun e => by rw [show isDigit ((c :: w ++ r).headD 0) = false from letter_not_digit c hc] at e; cases e)

/-- a number literal -/
theorem num_step {cw : CW} {ks fc} (h : WInv cw ks fc) (t : Token) (ty : TokType) (hty : t.type = ty) (hn : numOk t.lit ty)
    (hne : ty ≠ .eof) (hs : StartOKd (isDigit (t.lit.headD 0)) fc) :
    WInv ((cw.head t).writeString t.lit) (ks ++ [keyOf t]) (fol .int) := by
  obtain ⟨c, w, hl⟩ : ∃ c w, t.lit = c :: w := by
    cases hl : t.lit with
    | nil => rw [hl] at hn; exact absurd hn.1 (by decide)
    | cons c w => exact ⟨c, w, rfl⟩
  have h1 := h.head t
  have hk : keyOf t = (ty, c :: w) := by simp [keyOf, hty, hl]
  rw [hk]; rw [hl] at hn hs ⊢
  have hc : isDigit c = true := by simpa using hn.1
  exact h1.lit hs _ c w _ (Fields.str h1.pend _) (startByte_digit c hc) (fun _ => by simpa using hc)
    (fun r hr s hs' => num_lexes (c :: w) r ty hn hr s hs') hne nosign_num

/-- a literal between two quotes or two backticks `q`, with `body` written between them -/
theorem quoted_step {cw : CW} {ks fc} {d : Bool} (h : WInv cw ks fc) (hs : StartOKd d fc) (t : Token) (q : Nat) (body : Bytes) (k : Key)
    (hq : startByte q = true) (hqd : isDigit q = false) (hk : k.1 ≠ .eof)
    (htok : ∀ r (s : LS), s.rest = q :: (body ++ q :: r) → key3 (nextToken s) = (k, r, false, [])) :
    WInv ((((cw.head t).writeRune q).writeString body).writeRune q) (ks ++ [k]) anyFol := by
  have h1 := h.head t
  have hf : Fields (cw.head t) ((((cw.head t).writeRune q).writeString body).writeRune q) (q :: (body ++ [q])) :=
    ((Fields.rune h1.pend q).trans (Fields.str (Fields.rune h1.pend q).2.1 body)).trans
      (Fields.rune (Fields.str (Fields.rune h1.pend q).2.1 body).2.1 q) |> fun x => by simpa using x
  exact h1.lit hs _ q _ anyFol hf hq (fun e => by rw [hqd] at e; cases e) (fun r _ s hs' => htok r s (by simpa using hs')) hk
    (fun _ _ _ => rfl)

theorem atom_lex (t : Token) (hw : atomWf t = true) (ht : tokOk t) {cw : CW} {ks fc} (h : WInv cw ks fc)
    (hs : StartOKd (isDigit (t.lit.headD 0)) fc) :
    ∃ fc', WInv (writeExpr (atomTree t) cw) (ks ++ [keyOf t]) fc' ∧ EndOK fc' := by
  rcases atomWf_type t hw with hty | hty | hty | hty | hty | hty | hty | hty
  · rw [show atomTree t = .ident (identOf t) by unfold atomTree; rw [hty]; rfl]
    exact ⟨_, name_lex t hty ht h hs, endOK_word⟩
  · rw [show atomTree t = .int t by unfold atomTree; rw [hty]; rfl]
    exact ⟨_, num_step h t .int hty (by simpa only [tokOk, hty] using ht) (by decide) hs, endOK_num⟩
  · rw [show atomTree t = .float t by unfold atomTree; rw [hty]; rfl]
    exact ⟨_, num_step h t .float hty (by simpa only [tokOk, hty] using ht) (by decide) hs, endOK_num⟩
  · rw [show atomTree t = .str t t.lit by unfold atomTree; rw [hty]; rfl, show keyOf t = (.string, t.lit) by simp [keyOf, hty]]
    exact ⟨_, quoted_step h hs t 34 t.lit _ (by decide) (by decide) (by simp)
      (fun r s hs' => str_lexes t.lit r (by simpa only [tokOk, hty] using ht) s hs'), endOK_any⟩
  · rw [show atomTree t = .raw t t.lit by unfold atomTree; rw [hty]; rfl, show keyOf t = (.rawString, t.lit) by simp [keyOf, hty]]
    exact ⟨_, quoted_step h hs t 96 (escBackticks t.lit) _ (by decide) (by decide) (by simp)
      (fun r s hs' => raw_lexes t.lit r (by simpa only [tokOk, hty] using ht) s hs'), endOK_any⟩
  · rw [show atomTree t = .bool t true by unfold atomTree; rw [hty]; rfl]
    exact ⟨_, kw_step h hs t .true_ hty ht (by decide) (by decide) _ (hty ▸ tokOk_fixed t ht (by rw [hty]; decide)),
      endOK_kw .true_ rfl⟩
  · rw [show atomTree t = .bool t false by unfold atomTree; rw [hty]; rfl]
    exact ⟨_, kw_step h hs t .false_ hty ht (by decide) (by decide) _ (hty ▸ tokOk_fixed t ht (by rw [hty]; decide)),
      endOK_kw .false_ rfl⟩
  · rw [show atomTree t = .null t by unfold atomTree; rw [hty]; rfl]
    exact ⟨_, kw_step h hs t .null hty ht (by decide) (by decide) _ sb_null, endOK_kw .null rfl⟩

/-! ## facts about follow predicates and the trees of `SE` -/

def AllOK (fc : Bytes → Bool) : Prop := ∀ r, fc r = true
def CloseOK (fc : Bytes → Bool) : Prop := ∀ c r, (c = 41 ∨ c = 93 ∨ c = 125) → fc (c :: r) = true

theorem AllOK.start {fc : Bytes → Bool} (h : AllOK fc) : StartOK fc := fun r _ => h r
theorem AllOK.endOK {fc : Bytes → Bool} (h : AllOK fc) : EndOK fc := fun r _ => h r
theorem AllOK.close {fc : Bytes → Bool} (h : AllOK fc) : CloseOK fc := fun _ _ _ => h _
theorem EndOK.close {fc : Bytes → Bool} (h : EndOK fc) : CloseOK fc := fun c r hc =>
  h _ (by rcases hc with rfl | rfl | rfl <;> simp [fol, isWordByte, isLetter, isDigit])
theorem allOK_any : AllOK anyFol := fun _ => rfl

theorem allOK_semi : AllOK (fol .semicolon) := fun _ => rfl
theorem allOK_lparen : AllOK (fol .lparen) := fun _ => rfl
theorem allOK_rparen : AllOK (fol .rparen) := fun _ => rfl
theorem allOK_lbrace : AllOK (fol .lbrace) := fun _ => rfl
theorem allOK_rbrace : AllOK (fol .rbrace) := fun _ => rfl
theorem allOK_lbracket : AllOK (fol .lbracket) := fun _ => rfl
theorem allOK_rbracket : AllOK (fol .rbracket) := fun _ => rfl

theorem sb_ne (c k : Nat) (h : startByte c = true) (hk : startByte k = false) : (c != k) = true := by
  cases e : c != k
  · have : c = k := by simpa using e
    subst this; rw [h] at hk; cases hk
  · rfl

/-- behind an operator or delimiter anything an expression starts with may follow -/
theorem fol_start (ty : TokType) (hc : canon ty ≠ []) (hnw : isWordByte ((canon ty).headD 0) = false) : StartOK (fol ty) := by
  intro r hr
  cases ty <;> first
    | exact absurd rfl hc
    | exact absurd hnw (by decide)
    | rfl
    | (simp only [fol]; generalize r.headD 0 = c at hr ⊢
       simp [sb_ne c 61 hr rfl, sb_ne c 43 hr rfl, sb_ne c 45 hr rfl, sb_ne c 47 hr rfl])

theorem tree_isNone (s : SE) : s.tree.isNone = false := by
  cases s with
  | atom t => simp only [SE.tree]; unfold atomTree; split <;> rfl
  | _ => rfl

/-- the levels of `SE.toks` are the `Precedence()` values of the nodes of the tree -/
theorem prec_tree (s : SE) : s.tree.prec = s.level := by
  cases s with
  | atom t => simp only [SE.tree, SE.level]; unfold atomTree; split <;> rfl
  | _ => simp [SE.tree, Expr.prec, SE.level]

theorem wrap_isNone (b : Bool) (s : SE) : (wrapTree b s.tree).isNone = false := by
  cases b
  · exact tree_isNone s
  · rfl

theorem wrap_prec (b : Bool) (s : SE) : (wrapTree b s.tree).prec = if b then precAtomic else s.level := by
  cases b
  · exact prec_tree s
  · rfl

/-! ## the printer's text for an expression lexes to its tokens -/

/-- the induction statement: whatever was written before, the expression's text adds its tokens -/
def ELex (e : Expr) (toks : List Token) : Prop :=
  ∀ {cw : CW} {ks : List Key} {fc : Bytes → Bool}, WInv cw ks fc → StartOK fc →
    ∃ fc', WInv (writeExpr e cw) (ks ++ toks.map keyOf) fc' ∧ EndOK fc'

theorem open_paren {cw : CW} {ks fc} (h : WInv cw ks fc) (hs : StartOK fc) (lp : Token) (klp : keyOf lp = (.lparen, [40])) :
    WInv (((cw.head lp).writeRune 40).increaseIndent) (ks ++ [keyOf lp]) (fol .lparen) :=
  ((h.head lp).rune lp klp (pre_start hs 40 [] (by decide))).increaseIndent

/-- `( e )` -/
theorem group_lex (lp rp : Token) (klp : keyOf lp = (.lparen, [40])) (krp : keyOf rp = (.rparen, [41])) (e : Expr) (toks : List Token)
    (ih : ELex e toks) : ELex (.group lp e rp) (lp :: toks ++ [rp]) := by
  intro cw ks fc h hs
  simp only [writeExpr]
  obtain ⟨fc2, h2, he2⟩ := ih (open_paren h hs lp klp) (fol_start .lparen (by decide) (by decide))
  exact ⟨_, (((h2.leadingComments rp.comments).decreaseIndent).delim he2 rp krp).regroup, allOK_rparen.endOK⟩

theorem wrap_lex (b : Bool) (s : SE) (ih : ELex s.tree s.toks) : ELex (wrapTree b s.tree) (wrapToks b s.toks) := by
  cases b
  · exact ih
  · exact group_lex lpT rpT rfl rfl s.tree s.toks ih

/-- `separateSigns` in front of a sign operator: afterwards the sign may be written -/
theorem sep_lex {cw : CW} {ks fc} (h : WInv cw ks fc) (hs : StartOK fc) (c : Nat) (w : Bytes) (hc : c = 43 ∨ c = 45) :
    ∃ fc1, WInv (cw.separateSigns (c :: w)) ks fc1 ∧ (∀ r, fc1 (c :: r) = true) ∧ StartOK fc1 := by
  have hcond : (c != 43 && c != 45) = false := by rcases hc with rfl | rfl <;> rfl
  unfold CW.separateSigns
  simp only [hcond, Bool.false_eq_true, if_false, flushPending_id h.pend]
  by_cases hl : (cw.out.getLast? == some c) = true
  · rw [if_pos hl]
    exact ⟨anyFol, h.space (fun r => hs _ (show startByte 32 = true by decide)), fun _ => rfl, startOK_any⟩
  · rw [if_neg hl]
    refine ⟨fc, h, fun r => ?_, hs⟩
    cases hf : fc (c :: r)
    · exact absurd (by rw [h.sign c r hc hf]; exact beq_self_eq_true _) hl
    · rfl

theorem sep_not {cw : CW} : cw.separateSigns [33] = cw := by simp [CW.separateSigns]

theorem openIf_false (cw : CW) : cw.openIf false = cw := rfl
theorem closeIf_false (cw : CW) : cw.closeIf false = cw := rfl

/-- a sign operator (`-`, `++`, `--`) in prefix position: kept apart from a sign before it, and no `!` -/
theorem sign_step {cw : CW} {ks fc} (h : WInv cw ks fc) (hs : StartOK fc) (t : Token) (ty : TokType) (c : Nat) (w : Bytes)
    (hty : t.type = ty) (ht : tokOk t) (hcan : canon ty = c :: w) (hc : c = 43 ∨ c = 45) (b : Bool) :
    ∃ fc2, WInv (if ((c :: w) == [33] && b) = true then
        (((cw.separateSigns (c :: w)).addMapping t.sl t.sc).writeString (c :: w)).writeRune 32
      else ((cw.separateSigns (c :: w)).addMapping t.sl t.sc).writeString (c :: w)) (ks ++ [keyOf t]) fc2 ∧ StartOK fc2 := by
  have hne : canon ty ≠ [] := by rw [hcan]; exact List.cons_ne_nil _ _
  have h33 : ((c :: w) == [33]) = false := by rcases hc with rfl | rfl <;> simp
  rw [h33, Bool.false_and, if_neg Bool.false_ne_true, keyOf_fixed t ht ty hty hne, ← hcan]
  obtain ⟨fc1, h1, hp1, _⟩ := sep_lex h hs c w hc
  rw [← hcan] at h1
  exact ⟨_, (h1.addMapping t.sl t.sc).fixed ty hne (Fields.str (h1.addMapping t.sl t.sc).pend _) (fun r => by rw [hcan]; exact hp1 _),
    fol_start ty hne (by rw [hcan]; rcases hc with rfl | rfl <;> rfl)⟩

/-- prefix operators `!` `-` `++` `--` -/
theorem un_lex (t : Token) (hp : lookup basePrefixFns t.type = some .unary) (ht : tokOk t) (R : Expr) (rtoks : List Token)
    (hR : ELex R rtoks) (hnone : R.isNone = false) (hprec : ¬ R.prec < precUnary) : ELex (.unary t t.lit R) (t :: rtoks) := by
  intro cw ks fc h hs
  have hrp : decide (R.prec < precUnary) = false := by simpa using hprec
  simp only [writeExpr, hnone, Bool.false_eq_true, if_false, hrp, openIf_false, closeIf_false]
  have h0 := h.leadingComments t.comments
  have hlit : ∀ ty, t.type = ty → canon ty ≠ [] → t.lit = canon ty := fun ty hty hc => hty ▸ tokOk_fixed t ht (hty ▸ hc)
  -- after the operator: the token is there and an expression may start
  have key : ∃ fc2, WInv (if (t.lit == [33] && R.isDecrement) = true then
        ((((cw.leadingComments t.comments).separateSigns t.lit).addMapping t.sl t.sc).writeString t.lit).writeRune 32
      else (((cw.leadingComments t.comments).separateSigns t.lit).addMapping t.sl t.sc).writeString t.lit)
      (ks ++ [keyOf t]) fc2 ∧ StartOK fc2 := by
    rcases unary_type hp with hty | hty | hty | hty
    · rw [hlit .not hty (by decide), keyOf_fixed t ht .not hty (by decide)]
      simp only [canon, sep_not]
      have h1 := (h0.addMapping t.sl t.sc).fixed .not (by decide) (Fields.str (h0.addMapping t.sl t.sc).pend _)
        (pre_start hs 33 [] (by decide))
      by_cases hd : R.isDecrement = true
      · simp only [hd, beq_self_eq_true, Bool.and_self, if_true]
        exact ⟨anyFol, h1.space (fun r => by simp [fol]), startOK_any⟩
      · simp only [show R.isDecrement = false by simpa using hd, Bool.and_false, Bool.false_eq_true, if_false]
        exact ⟨_, h1, fol_start .not (by decide) (by decide)⟩
    · rw [hlit .minus hty (by decide)]
      exact sign_step h0 hs t .minus 45 [] hty ht rfl (Or.inr rfl) _
    · rw [hlit .increment hty (by decide)]
      exact sign_step h0 hs t .increment 43 [43] hty ht rfl (Or.inl rfl) _
    · rw [hlit .decrement hty (by decide)]
      exact sign_step h0 hs t .decrement 45 [45] hty ht rfl (Or.inr rfl) _
  obtain ⟨fc2, h2, hs2⟩ := key
  obtain ⟨fc3, h3, he3⟩ := hR h2 hs2
  exact ⟨fc3, h3.regroup, he3⟩

theorem infix_spelling : ∀ kv ∈ baseInfixFns, kv.2 = .binary ∨ kv.2 = .postfix →
    canon kv.1 ≠ [] ∧ isWordByte ((canon kv.1).headD 0) = false ∧ (canon kv.1).headD 0 ≠ 46 := by decide

/-- the thirteen binary operators: spelling starts with a byte that ends any expression -/
theorem binop_facts (ty : TokType) (h : lookup baseInfixFns ty = some .binary) :
    canon ty ≠ [] ∧ isWordByte ((canon ty).headD 0) = false ∧ (canon ty).headD 0 ≠ 46 :=
  infix_spelling _ (lookup_mem h) (Or.inl rfl)

theorem pre_end' {fc : Bytes → Bool} (he : EndOK fc) (w : Bytes) (hw : w ≠ []) (h : isWordByte (w.headD 0) = false) (h46 : w.headD 0 ≠ 46) :
    ∀ r, fc (w ++ r) = true := by
  cases w with
  | nil => exact absurd rfl hw
  | cons c w => exact pre_end he c w (by simpa using h) (by simpa using h46)

/-- an infix or postfix operator written behind its left operand -/
theorem infix_step {cw : CW} {ks fc} (h : WInv cw ks fc) (he : EndOK fc) (t : Token) (ht : tokOk t)
    (hsp : canon t.type ≠ [] ∧ isWordByte ((canon t.type).headD 0) = false ∧ (canon t.type).headD 0 ≠ 46) :
    WInv (cw.writeString t.lit) (ks ++ [keyOf t]) (fol t.type) := by
  have h2 := h.fixed t.type hsp.1 (Fields.str h.pend _) (pre_end' he _ hsp.1 hsp.2.1 hsp.2.2)
  rwa [← tokOk_fixed t ht hsp.1] at h2

theorem bin_lex (t : Token) (hb : lookup baseInfixFns t.type = some .binary) (ht : tokOk t) (L R : Expr) (ltoks rtoks : List Token)
    (hL : ELex L ltoks) (hR : ELex R rtoks) (hln : L.isNone = false) (hrn : R.isNone = false)
    (hlp : ¬ L.prec < operatorPrecedence t.type) (hrp : ¬ R.prec ≤ operatorPrecedence t.type) :
    ELex (.binary t L t.lit R) (ltoks ++ t :: rtoks) := by
  intro cw ks fc h hs
  have hsp := binop_facts t.type hb
  simp only [writeExpr, hln, hrn, Bool.false_eq_true, if_false, show decide (L.prec < operatorPrecedence t.type) = false by simpa using hlp,
    show decide (R.prec ≤ operatorPrecedence t.type) = false by simpa using hrp, openIf_false, closeIf_false]
  obtain ⟨fc1, h1, he1⟩ := hL h hs
  obtain ⟨fc3, h3, he3⟩ := hR (infix_step (h1.writeSpace.head t) he1 t ht hsp).writeSpace (fol_start t.type hsp.1 hsp.2.1)
  exact ⟨fc3, h3.regroup, he3⟩

/-- postfix `++` / `--` -/
theorem post_lex (t : Token) (hb : lookup baseInfixFns t.type = some .postfix) (ht : tokOk t) (L : Expr) (ltoks : List Token)
    (hL : ELex L ltoks) (hln : L.isNone = false) (hlp : ¬ L.prec < precPostfix) : ELex (.postfix t L t.lit) (ltoks ++ [t]) := by
  intro cw ks fc h hs
  have hall : AllOK (fol t.type) := by rcases postfix_update hb with e | e <;> rw [e] <;> exact fun _ => rfl
  simp only [writeExpr, hln, Bool.false_eq_true, if_false, show decide (L.prec < precPostfix) = false by simpa using hlp,
    openIf_false, closeIf_false]
  obtain ⟨fc1, h1, he1⟩ := hL (h.leadingComments t.comments) hs
  exact ⟨_, (infix_step (h1.addMapping t.sl t.sc) he1 t ht (infix_spelling _ (lookup_mem hb) (Or.inr rfl))).regroup, hall.endOK⟩

/-- `o[p]` -/
theorem idx_lex (t : Token) (hty : t.type = .lbracket) (ht : tokOk t) (O P : Expr) (otoks ptoks : List Token)
    (hO : ELex O otoks) (hP : ELex P ptoks) : ELex (.member t O P true) (otoks ++ t :: ptoks ++ [rbT]) := by
  intro cw ks fc h hs
  simp only [writeExpr, if_true]
  obtain ⟨fc1, h1, he1⟩ := hO h hs
  obtain ⟨fc3, h3, he3⟩ := hP (((h1.leadingComments t.comments).addMapping t.sl t.sc).delim he1 t (keyOf_fixed t ht .lbracket hty (by decide)))
    (fol_start .lbracket (by decide) (by decide))
  exact ⟨_, (h3.delim he3 rbT rfl).regroup, allOK_rbracket.endOK⟩

/-- `l = v` -/
theorem asg_lex (t : Token) (hty : t.type = .assign) (ht : tokOk t) (L V : Expr) (ltoks vtoks : List Token)
    (hL : ELex L ltoks) (hV : ELex V vtoks) : ELex (.assign t L V) (ltoks ++ t :: vtoks) := by
  intro cw ks fc h hs
  simp only [writeExpr]
  obtain ⟨fc1, h1, he1⟩ := hL h hs
  obtain ⟨fc3, h3, he3⟩ := hV ((h1.writeSpace.head t).delim he1 t (keyOf_fixed t ht .assign hty (by decide))).writeSpace
    (fol_start .assign (by decide) (by decide))
  exact ⟨fc3, h3.regroup, he3⟩

/-- the follow predicate of the dot of a member access: no digit -/
def dotFol : Bytes → Bool := fun r => !isDigit (r.headD 0)

/-- `o.p` -/
theorem dot_lex (t p : Token) (hty : t.type = .dot) (ht : tokOk t) (hpw : atomWf p = true) (hp : tokOk p)
    (hpd : isDigit (p.lit.headD 0) = false) (O : Expr) (otoks : List Token) (hO : ELex O otoks) :
    ELex (.member t O (atomTree p) false) (otoks ++ [t, p]) := by
  intro cw ks fc h hs
  have hk : keyOf t = (.dot, [46]) := keyOf_fixed t ht .dot hty (by decide)
  simp only [writeExpr, Bool.false_eq_true, if_false]
  obtain ⟨fc1, h1, he1⟩ := hO h hs
  have h1' := h1.leadingComments t.comments
  have fin : ∃ fc2, WInv ((if O.isDecimalInt = true then ((writeExpr O cw).leadingComments t.comments).writeRune 32
      else (writeExpr O cw).leadingComments t.comments).addMapping t.sl t.sc |>.writeRune 46)
      (ks ++ otoks.map keyOf ++ [keyOf t]) fc2 ∧ StartOKd false fc2 := by
    by_cases hd : O.isDecimalInt = true
    · rw [if_pos hd]
      have hsp := h1'.space (fun r => he1 _ (by simp [fol, isWordByte, isLetter, isDigit]))
      exact ⟨_, (hsp.addMapping t.sl t.sc).rune t hk (fun _ => rfl), (fol_start .dot (by decide) (by decide)).d false⟩
    · rw [if_neg hd, hk]
      have h1'' := h1'.addMapping t.sl t.sc
      have h2 := h1''.token [46] (.dot, [46]) dotFol (Fields.rune h1''.pend 46)
        (fun r _ s hs' => fixed_lexes .dot (by decide) r rfl s hs') (by simp)
        (fun r hr => pre_dot he1 r (by simpa [dotFol] using hr))
        (fun c r hc hfk => by rcases hc with rfl | rfl <;> simp [dotFol, isDigit] at hfk)
      refine ⟨_, h2, fun r _ hd' => ?_⟩
      cases e : isDigit (r.headD 0)
      · show (!isDigit (r.headD 0)) = true; rw [e]; rfl
      · exact absurd (hd' e) (by decide)
  obtain ⟨fc2, h2, hs2⟩ := fin
  obtain ⟨fc3, h3, he3⟩ := atom_lex p hpw hp h2 (by rw [hpd]; exact hs2)
  exact ⟨fc3, h3.regroup, he3⟩

/-- `l += v`, `l -= v` -/
theorem casg_lex (t : Token) (hty : t.type = .plusAssign ∨ t.type = .minusAssign) (ht : tokOk t) (L V : Expr) (ltoks vtoks : List Token)
    (hL : ELex L ltoks) (hV : ELex V vtoks) : ELex (.compound t L (compoundOp t) V) (ltoks ++ t :: vtoks) := by
  intro cw ks fc h hs
  simp only [writeExpr]
  obtain ⟨fc1, h1, he1⟩ := hL h hs
  have h1' := (h1.head t).writeSpace
  -- the sign `c`, then `=`
  obtain ⟨ty, c, hty, hcan, hop, hc⟩ : ∃ ty c, t.type = ty ∧ canon ty = [c, 61] ∧ compoundOp t = [c] ∧ (c = 43 ∨ c = 45) := by
    rcases hty with hty | hty
    · exact ⟨.plusAssign, 43, hty, rfl, by simp [compoundOp, hty], Or.inl rfl⟩
    · exact ⟨.minusAssign, 45, hty, rfl, by simp [compoundOp, hty], Or.inr rfl⟩
  have hne : canon ty ≠ [] := by rw [hcan]; exact List.cons_ne_nil _ _
  rw [hop]
  have hf : Fields ((writeExpr L cw).head t).writeSpace (((((writeExpr L cw).head t).writeSpace).writeString [c]).writeRune 61)
      (canon ty) := by
    rw [hcan]; exact (Fields.str h1'.pend [c]).trans (Fields.rune (Fields.str h1'.pend [c]).2.1 61)
  have h2 := (h1'.fixed ty hne hf (by
    rw [hcan]; exact pre_end he1 c [61] (by rcases hc with rfl | rfl <;> rfl) (by rcases hc with rfl | rfl <;> decide))).writeSpace
  rw [← keyOf_fixed t ht ty hty hne] at h2
  obtain ⟨fc3, h3, he3⟩ := hV h2 (fol_start ty hne (by rw [hcan]; rcases hc with rfl | rfl <;> rfl))
  exact ⟨fc3, h3.regroup, he3⟩

end Xjs.LP
