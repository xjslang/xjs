import XjsModel.Proofs.LexPrintStmt
import XjsModel.Proofs.RaTerm
/-
  Lexing what the printer spells: assembly by structural recursion over the seven mutually inductive spec-tree
  types — for every well-formed tree whose tokens are lexically sane, the text of the compact printer lexes to the
  token sequence `toks` of the tree.
-/
namespace Xjs.LP
open Xjs Xjs.RA

mutual
  /-- every token of the tree carries a literal the lexer could have produced for its type; the property name of a
      member access does not start with a digit -/
  def saneE : SE → Prop
    | .atom t => tokOk t
    | .grp lp e rp => tokOk lp ∧ tokOk rp ∧ saneE e
    | .un t r => tokOk t ∧ saneE r
    | .bin t l r => tokOk t ∧ saneE l ∧ saneE r
    | .post t l => tokOk t ∧ saneE l
    | .call t f args => tokOk t ∧ saneE f ∧ saneL args
    | .dot t o p => tokOk t ∧ saneE o ∧ tokOk p ∧ isDigit (p.lit.headD 0) = false
    | .idx t o p => tokOk t ∧ saneE o ∧ saneE p
    | .asg t l v => tokOk t ∧ saneE l ∧ saneE v
    | .casg t l v => tokOk t ∧ saneE l ∧ saneE v
    | .arr t es => tokOk t ∧ saneL es
    | .func t name params body => tokOk t ∧ (∀ n ∈ optTok name, tokOk n) ∧ (∀ p ∈ params, tokOk p) ∧ saneB body
    | .obj t props => tokOk t ∧ saneP props
  def saneL : SEList → Prop
    | .nil => True
    | .cons e rest => saneE e ∧ saneL rest
  def saneP : SPList → Prop
    | .nil => True
    | .cons k v rest => saneE k ∧ saneE v ∧ saneP rest
  def saneS : SS → Prop
    | .exprS e _ => saneE e
    | .letS t name v _ => tokOk t ∧ tokOk name ∧ saneE v
    | .letN t name => tokOk t ∧ tokOk name
    | .ret t v _ => tokOk t ∧ saneE v
    | .retN t => tokOk t
    | .ifS t c thn => tokOk t ∧ saneE c ∧ saneS thn
    | .ifElse t c thn el els => tokOk t ∧ saneE c ∧ saneS thn ∧ tokOk el ∧ saneS els
    | .whileS t c body => tokOk t ∧ saneE c ∧ saneS body
    | .forS t init cond upd body => tokOk t ∧ saneI init ∧ saneO cond ∧ saneO upd ∧ saneS body
    | .block body => saneB body
    | .funcD t name params body => tokOk t ∧ tokOk name ∧ (∀ p ∈ params, tokOk p) ∧ saneB body
  def saneB : SSList → Prop
    | .nil => True
    | .cons s rest => saneS s ∧ saneB rest
  def saneO : SOpt → Prop
    | .none => True
    | .some e => saneE e
  def saneI : SInit → Prop
    | .none => True
    | .letV t name v => tokOk t ∧ tokOk name ∧ saneE v
    | .letN t name => tokOk t ∧ tokOk name
    | .expr e => saneE e
end

theorem wrap_not_lt (r : SE) (my : Nat) (hmy : my ≤ 13) : ¬ (wrapTree (decide (r.level < my)) r.tree).prec < my := by
  rw [wrap_prec]
  by_cases h : r.level < my
  · simp only [h, decide_true, if_true, precAtomic]; omega
  · simpa only [h, decide_false, Bool.false_eq_true, if_false] using h

theorem wrap_not_le (r : SE) (my : Nat) (hmy : my < 13) : ¬ (wrapTree (decide (r.level ≤ my)) r.tree).prec ≤ my := by
  rw [wrap_prec]
  by_cases h : r.level ≤ my
  · simp only [h, decide_true, if_true, precAtomic]; omega
  · simpa only [h, decide_false, Bool.false_eq_true, if_false] using h

theorem idents_ok (ps : List Token) (h1 : ps.all isIdentTok = true) (h2 : ∀ p ∈ ps, tokOk p) : ∀ p ∈ ps, p.type = .ident ∧ tokOk p := by
  intro p hp
  have := (List.all_eq_true.1 h1) p hp
  exact ⟨by simpa [isIdentTok] using this, h2 p hp⟩

mutual
  theorem lexE : (s : SE) → s.wf = true → s.term = true → saneE s → ELex s.tree s.toks
    | .atom t, hw, _, hs => by
      intro h hst
      simp only [SE.wf, saneE] at hw hs
      simpa only [SE.tree, SE.toks, List.map_cons, List.map_nil] using atom_lex t hw hs h (hst.d _)
    | .grp lp e rp, hw, ht, hs => by
      simp only [SE.wf, Bool.and_eq_true, beq_iff_eq, SE.term, saneE, SE.tree, SE.toks] at hw ht hs ⊢
      exact group_lex lp rp (keyOf_fixed lp hs.1 .lparen hw.1.1 (by decide)) (keyOf_fixed rp hs.2.1 .rparen hw.1.2 (by decide))
        e.tree e.toks (lexE e hw.2 ht hs.2.2)
    | .un t r, hw, ht, hs => by
      simp only [SE.wf, Bool.and_eq_true, beq_iff_eq, SE.term, saneE, SE.tree, SE.toks] at hw ht hs ⊢
      exact un_lex t hw.1 hs.1 _ _ (wrap_lex _ r (lexE r hw.2 ht hs.2)) (wrap_isNone _ r) (wrap_not_lt r precUnary (by decide))
    | .bin t l r, hw, ht, hs => by
      simp only [SE.wf, Bool.and_eq_true, beq_iff_eq, SE.term, saneE, SE.tree, SE.toks] at hw ht hs ⊢
      have hb := (binary_prec t.type hw.1.1).2.2.1
      exact bin_lex t hw.1.1 hs.1 _ _ _ _ (wrap_lex _ l (lexE l hw.1.2 ht.1 hs.2.1)) (wrap_lex _ r (lexE r hw.2 ht.2 hs.2.2))
        (wrap_isNone _ l) (wrap_isNone _ r) (wrap_not_lt l _ (by omega)) (wrap_not_le r _ (by omega))
    | .post t l, hw, ht, hs => by
      simp only [SE.wf, Bool.and_eq_true, beq_iff_eq, SE.term, saneE, SE.tree, SE.toks] at hw ht hs ⊢
      exact post_lex t hw.1.1 hs.1 _ _ (wrap_lex _ l (lexE l hw.1.2 ht hs.2)) (wrap_isNone _ l) (wrap_not_lt l precPostfix (by decide))
    | .call t f args, hw, ht, hs => by
      simp only [SE.wf, Bool.and_eq_true, beq_iff_eq, SE.term, saneE, SE.tree, SE.toks] at hw ht hs ⊢
      exact call_lex t hw.1.1.1.1 hs.1 _ _ _ _ (lexE f hw.1.2 ht.1 hs.2.1) (lexL' args hw.2 ht.2 hs.2.2)
    | .dot t o p, hw, ht, hs => by
      simp only [SE.wf, Bool.and_eq_true, beq_iff_eq, SE.term, saneE, SE.tree, SE.toks] at hw ht hs ⊢
      exact dot_lex t p hw.1.1.1 hs.1 hw.2 hs.2.2.1 hs.2.2.2 _ _ (lexE o hw.1.2 ht hs.2.1)
    | .idx t o p, hw, ht, hs => by
      simp only [SE.wf, Bool.and_eq_true, beq_iff_eq, SE.term, saneE, SE.tree, SE.toks] at hw ht hs ⊢
      exact idx_lex t hw.1.1.1.1 hs.1 _ _ _ _ (lexE o hw.1.2 ht.1 hs.2.1) (lexE p hw.2 ht.2 hs.2.2)
    | .asg t l v, hw, ht, hs => by
      simp only [SE.wf, Bool.and_eq_true, beq_iff_eq, SE.term, saneE, SE.tree, SE.toks] at hw ht hs ⊢
      exact asg_lex t hw.1.1.1 hs.1 _ _ _ _ (lexE l hw.1.2 ht.1 hs.2.1) (lexE v hw.2 ht.2 hs.2.2)
    | .casg t l v, hw, ht, hs => by
      simp only [SE.wf, Bool.and_eq_true, beq_iff_eq, Bool.or_eq_true, SE.term, saneE, SE.tree, SE.toks] at hw ht hs ⊢
      exact casg_lex t hw.1.1.1 hs.1 _ _ _ _ (lexE l hw.1.2 ht.1 hs.2.1) (lexE v hw.2 ht.2 hs.2.2)
    | .arr t es, hw, ht, hs => by
      simp only [SE.wf, Bool.and_eq_true, beq_iff_eq, SE.term, saneE, SE.tree, SE.toks] at hw ht hs ⊢
      exact arr_lex t rbT hw.1 hs.1 _ _ (lexL' es hw.2 ht hs.2)
    | .func t name params body, hw, ht, hs => by
      simp only [SE.wf, Bool.and_eq_true, beq_iff_eq, SE.term, saneE, SE.tree, SE.toks] at hw ht hs ⊢
      exact func_lex t hw.1.1.1 hs.1 name (idents_ok _ hw.1.1.2 hs.2.1) params (idents_ok _ hw.1.2 hs.2.2.1) _ _
        (lexB body hw.2 ht hs.2.2.2).1
    | .obj t props, hw, ht, hs => by
      simp only [SE.wf, Bool.and_eq_true, beq_iff_eq, SE.term, saneE, SE.tree, SE.toks] at hw ht hs ⊢
      exact obj_lex t _ hw.1 hs.1 _ _ (lexP' props hw.2 ht hs.2)
  theorem lexL : (es : SEList) → es.wf = true → es.term = true → saneL es → LLexC es.tree es.ctoks
    | .nil, _, _, _ => llexC_nil
    | .cons e rest, hw, ht, hs => by
      simp only [SEList.wf, Bool.and_eq_true, SEList.term, saneL, SEList.tree, SEList.ctoks] at hw ht hs ⊢
      exact llexC_cons _ _ _ _ (lexE e hw.1 ht.1 hs.1) (lexL rest hw.2 ht.2 hs.2)
  theorem lexL' : (es : SEList) → es.wf = true → es.term = true → saneL es → LLex es.tree es.toks
    | .nil, _, _, _ => llex_nil
    | .cons e rest, hw, ht, hs => by
      simp only [SEList.wf, Bool.and_eq_true, SEList.term, saneL, SEList.tree, SEList.toks] at hw ht hs ⊢
      exact llex_cons _ _ _ _ (lexE e hw.1 ht.1 hs.1) (lexL rest hw.2 ht.2 hs.2)
  theorem lexP : (ps : SPList) → ps.wf = true → ps.term = true → saneP ps → PLexC ps.tree ps.ctoks
    | .nil, _, _, _ => plexC_nil
    | .cons k v rest, hw, ht, hs => by
      simp only [SPList.wf, Bool.and_eq_true, SPList.term, saneP, SPList.tree, SPList.ctoks] at hw ht hs ⊢
      exact plexC_cons _ _ _ _ _ _ (lexE k hw.1.1 ht.1.1 hs.1) (lexE v hw.1.2 ht.1.2 hs.2.1) (lexP rest hw.2 ht.2 hs.2.2)
  theorem lexP' : (ps : SPList) → ps.wf = true → ps.term = true → saneP ps → PLex ps.tree ps.toks
    | .nil, _, _, _ => plex_nil
    | .cons k v rest, hw, ht, hs => by
      simp only [SPList.wf, Bool.and_eq_true, SPList.term, saneP, SPList.tree, SPList.toks] at hw ht hs ⊢
      exact plex_cons _ _ _ _ _ _ (lexE k hw.1.1 ht.1.1 hs.1) (lexE v hw.1.2 ht.1.2 hs.2.1) (lexP rest hw.2 ht.2 hs.2.2)
  theorem lexS : (s : SS) → s.wf = true → s.term = true → saneS s → SLex s.tree s.toks
    | .exprS e semi, hw, ht, hs => by
      simp only [SS.wf, Bool.and_eq_true, SS.term, saneS] at hw ht hs
      simp only [SS.tree, SS.toks, ht.1, semiToks, if_true]
      exact exprS_lex _ _ (tree_isNone e) (lexE e hw.1.1 ht.2 hs)
    | .letS t name v semi, hw, ht, hs => by
      simp only [SS.wf, Bool.and_eq_true, beq_iff_eq, isIdentTok, SS.term, saneS] at hw ht hs
      simp only [SS.tree, SS.toks, ht.1, semiToks, if_true]
      exact letS_lex t name hw.1.1 hs.1 hw.1.2 hs.2.1 _ _ (tree_isNone v) (lexE v hw.2 ht.2 hs.2.2)
    | .letN t name, hw, _, hs => by
      simp only [SS.wf, Bool.and_eq_true, beq_iff_eq, isIdentTok, saneS, SS.tree, SS.toks] at hw hs ⊢
      exact letN_lex t name hw.1 hs.1 hw.2 hs.2
    | .ret t v semi, hw, ht, hs => by
      simp only [SS.wf, Bool.and_eq_true, beq_iff_eq, SS.term, saneS] at hw ht hs
      simp only [SS.tree, SS.toks, ht.1, semiToks, if_true]
      exact (ret_lex t hw.1.1 hs.1).2 _ _ (tree_isNone v) (lexE v hw.1.2 ht.2 hs.2)
    | .retN t, hw, _, hs => by
      simp only [SS.wf, beq_iff_eq, saneS, SS.tree, SS.toks] at hw hs ⊢
      exact (ret_lex t hw hs).1
    | .ifS t c thn, hw, ht, hs => by
      simp only [SS.wf, Bool.and_eq_true, beq_iff_eq, SS.term, saneS, SS.tree, SS.toks] at hw ht hs ⊢
      exact if_lex t hw.1.1 hs.1 _ _ (lexE c hw.1.2 ht.1 hs.2.1) _ _ (lexS thn hw.2 ht.2 hs.2.2)
    | .ifElse t c thn el els, hw, ht, hs => by
      simp only [SS.wf, Bool.and_eq_true, beq_iff_eq, SS.term, saneS, SS.tree, SS.toks] at hw ht hs ⊢
      exact ifElse_lex t el hw.1.1.1.1.1 hs.1 hw.2 hs.2.2.2.1 _ _ (lexE c hw.1.1.1.1.2 ht.1.1 hs.2.1) _ _ _ _
        (lexS thn hw.1.1.1.2 ht.1.2 hs.2.2.1) (lexS els hw.1.2 ht.2 hs.2.2.2.2) (tree_not_none els)
    | .whileS t c body, hw, ht, hs => by
      simp only [SS.wf, Bool.and_eq_true, beq_iff_eq, SS.term, saneS, SS.tree, SS.toks] at hw ht hs ⊢
      exact while_lex t hw.1.1 hs.1 _ _ (lexE c hw.1.2 ht.1 hs.2.1) _ _ (lexS body hw.2 ht.2 hs.2.2)
    | .forS t init cond upd body, hw, ht, hs => by
      simp only [SS.wf, Bool.and_eq_true, beq_iff_eq, SS.term, saneS, SS.tree, SS.toks] at hw ht hs ⊢
      exact for_lex t hw.1.1.1.1 hs.1 _ _ _ _ _ _ (lexI init hw.1.1.1.2 ht.1.1.1 hs.2.1) (lexO cond hw.1.1.2 ht.1.1.2 hs.2.2.1)
        (lexO upd hw.1.2 ht.1.2 hs.2.2.2.1) _ _ (lexS body hw.2 ht.2 hs.2.2.2.2)
    | .block body, hw, ht, hs => by
      simp only [SS.wf, SS.term, saneS, SS.tree, SS.toks] at hw ht hs ⊢
      exact block_lex lbrT rbrT rfl rfl _ _ (lexB body hw ht hs).1
    | .funcD t name params body, hw, ht, hs => by
      simp only [SS.wf, Bool.and_eq_true, beq_iff_eq, isIdentTok, SS.term, saneS, SS.tree, SS.toks] at hw ht hs ⊢
      exact funcD_lex t name hw.1.1.1 hs.1 hw.1.1.2 hs.2.1 params (idents_ok _ hw.1.2 hs.2.2.1) _ _ (lexB body hw.2 ht hs.2.2.2).1
  theorem lexB : (ss : SSList) → ss.wf = true → ss.term = true → saneB ss → BLex ss.tree ss.toks ∧ GLex ss.tree ss.toks
    | .nil, _, _, _ => ⟨blex_nil, glex_nil⟩
    | .cons s rest, hw, ht, hs => by
      simp only [SSList.wf, Bool.and_eq_true, SSList.term, saneB, SSList.tree, SSList.toks] at hw ht hs ⊢
      exact ⟨blex_cons _ _ _ _ (lexS s hw.1 ht.1 hs.1) (lexB rest hw.2 ht.2 hs.2).1,
        glex_cons _ _ _ _ (lexS s hw.1 ht.1 hs.1) (lexB rest hw.2 ht.2 hs.2).2⟩
  theorem lexO : (o : SOpt) → o.wf = true → o.term = true → saneO o → OLex o.tree o.toks
    | .none, _, _, _ => olex_none
    | .some e, hw, ht, hs => by
      simp only [SOpt.wf, SOpt.term, saneO, SOpt.tree, SOpt.toks] at hw ht hs ⊢
      exact olex_some _ _ (tree_isNone e) (lexE e hw ht hs)
  theorem lexI : (i : SInit) → i.wf = true → i.term = true → saneI i → OLex i.tree i.toks
    | .none, _, _, _ => olex_none
    | .letV t name v, hw, ht, hs => by
      simp only [SInit.wf, Bool.and_eq_true, beq_iff_eq, isIdentTok, SInit.term, saneI, SInit.tree, SInit.toks] at hw ht hs ⊢
      exact olex_some _ _ rfl ((letE_lex t name hw.1.1 hs.1 hw.1.2 hs.2.1).2 _ _ (tree_isNone v) (lexE v hw.2 ht hs.2.2))
    | .letN t name, hw, _, hs => by
      simp only [SInit.wf, Bool.and_eq_true, beq_iff_eq, isIdentTok, saneI, SInit.tree, SInit.toks] at hw hs ⊢
      exact olex_some _ _ rfl (letE_lex t name hw.1 hs.1 hw.2 hs.2).1
    | .expr e, hw, ht, hs => by
      simp only [SInit.wf, SInit.term, saneI, SInit.tree, SInit.toks] at hw ht hs ⊢
      exact olex_some _ _ (tree_isNone e) (lexE e hw ht hs)
end

end Xjs.LP
