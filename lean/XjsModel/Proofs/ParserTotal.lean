import XjsModel.Proofs.ParserTotalBase
/-
  Totality of the parser: every function of the mutual block returns on every EOF-terminated token list,
  by induction on the number of tokens left; within one size the functions are taken in the order of their
  same-size calls (prefix < remaining < expression < statement < block loop).
-/
namespace Xjs.Total
open Xjs

variable {cfg : PCfg}

/-! ### `Steps` for every function of the block (instances of `steps_of_run`) -/
theorem st_base {st r} (h : baseParseStatement cfg st = some r) : Steps st r.2 := steps_of_run (c := .base) h
theorem st_exprStmt {st r} (h : parseExpressionStatement cfg st = some r) : Steps st r.2 := steps_of_run (c := .exprS) h
theorem st_exprI {is p st r} (h : parseExpressionI cfg is p st = some r) : Steps st r.2 := steps_of_run (c := .exprI is p) h
theorem st_rem {l p st r} (h : parseRemaining cfg l p st = some r) : Steps st r.2 := steps_of_run (c := .remaining l p) h
theorem st_infix {l st r} (h : parseInfixExpression cfg l st = some r) : Steps st r.2 := steps_of_run (c := .infix l) h
theorem st_list {e st r} (h : parseExpressionList cfg e st = some r) : Steps st r.2 := steps_of_run (c := .exprList e) h
theorem st_listLoop {a st r} (h : exprListLoop cfg a st = some r) : Steps st r.2 := steps_of_run (c := .exprListLoop a) h
theorem st_prefix {st r} (h : parsePrefixExpression cfg st = some r) : Steps st r.2 := steps_of_run (c := .prefix) h
theorem st_funcE {st r} (h : parseFunctionExpression cfg st = some r) : Steps st r.2 := steps_of_run (c := .funcE) h
theorem st_block {st r} (h : parseBlockStatement cfg st = some r) : Steps st r.2 := steps_of_run (c := .block) h
theorem st_blockLoop {a st r} (h : blockLoop cfg a st = some r) : Steps st r.2 := steps_of_run (c := .blockLoop a) h
theorem st_objLit {st r} (h : parseObjectLiteral cfg st = some r) : Steps st r.2 := steps_of_run (c := .objLit) h
theorem st_objLoop {a st r} (h : objectLoop cfg a st = some r) : Steps st r.2 := steps_of_run (c := .objLoop a) h
theorem st_forS {st r} (h : parseForStatement cfg st = some r) : Steps st r.2 := steps_of_run (c := .forS) h
theorem st_forInit {st r} (h : parseForInit cfg st = some r) : Steps st r.2 := steps_of_run (c := .forInit) h
theorem st_letE {st r} (h : parseLetExpression cfg st = some r) : Steps st r.2 := steps_of_run (c := .letE) h
theorem st_whileS {st r} (h : parseWhileStatement cfg st = some r) : Steps st r.2 := steps_of_run (c := .whileS) h
theorem st_ifS {st r} (h : parseIfStatement cfg st = some r) : Steps st r.2 := steps_of_run (c := .ifS) h
theorem st_ret {st r} (h : parseReturnStatement cfg st = some r) : Steps st r.2 := steps_of_run (c := .ret) h
theorem st_funcS {st r} (h : parseFunctionStatement cfg st = some r) : Steps st r.2 := steps_of_run (c := .funcS) h
theorem st_letS {st r} (h : parseLetStatement cfg st = some r) : Steps st r.2 := steps_of_run (c := .letS) h
theorem st_params {st r} (h : parseFunctionParameters st = some r) : Steps st r.2 := steps_of_run (cfg := {}) (c := .params) h

/-- everything returns on states with at most `n` tokens left -/
structure All (cfg : PCfg) (n : Nat) : Prop where
  stmtI : ∀ is st, M n st → (parseStatementI cfg is st).isSome = true
  base : ∀ st, M n st → (baseParseStatement cfg st).isSome = true
  exprStmt : ∀ st, M n st → (parseExpressionStatement cfg st).isSome = true
  exprI : ∀ is prec st, 1 ≤ prec → M n st → (parseExpressionI cfg is prec st).isSome = true
  rem : ∀ left prec st, 1 ≤ prec → M n st → (parseRemaining cfg left prec st).isSome = true
  inf : ∀ left st, M n st → (parseInfixExpression cfg left st).isSome = true
  list : ∀ endTy st, st.cur.type ≠ .eof → M n st → (parseExpressionList cfg endTy st).isSome = true
  listLoop : ∀ acc st, M n st → (exprListLoop cfg acc st).isSome = true
  pfx : ∀ st, M n st → (parsePrefixExpression cfg st).isSome = true
  funcE : ∀ st, M n st → (parseFunctionExpression cfg st).isSome = true
  block : ∀ st, st.cur.type ≠ .eof → M n st → (parseBlockStatement cfg st).isSome = true
  blockLoop : ∀ acc st, M n st → (blockLoop cfg acc st).isSome = true
  objLit : ∀ st, st.cur.type ≠ .eof → M n st → (parseObjectLiteral cfg st).isSome = true
  objLoop : ∀ acc st, M n st → (objectLoop cfg acc st).isSome = true
  forS : ∀ st, M n st → (parseForStatement cfg st).isSome = true
  forInit : ∀ st, M n st → (parseForInit cfg st).isSome = true
  letE : ∀ st, M n st → (parseLetExpression cfg st).isSome = true
  whileS : ∀ st, M n st → (parseWhileStatement cfg st).isSome = true
  ifS : ∀ st, M n st → (parseIfStatement cfg st).isSome = true
  ret : ∀ st, M n st → (parseReturnStatement cfg st).isSome = true
  funcS : ∀ st, M n st → (parseFunctionStatement cfg st).isSome = true
  letS : ∀ st, M n st → (parseLetStatement cfg st).isSome = true

/-- `ExpectToken`: split on the outcome, with the size facts of the new state -/
syntax "texp " ident ident ident term : tactic
macro_rules
  | `(tactic| texp $hx:ident $s:ident $f:ident $hE:term) => `(tactic| (
      try dsimp only
      generalize $hx:ident : expectToken _ _ = x
      obtain ⟨ok, $s:ident⟩ := x
      have $f := expect_facts $hx (by decide) $hE
      cases ok <;> simp only [Bool.not_true, Bool.not_false, Bool.false_eq_true, if_true, if_false, true_implies,
        false_implies, and_true, forall_const] at $f:ident ⊢))

syntax "tsemi " ident ident ident term : tactic
macro_rules
  | `(tactic| tsemi $hx:ident $s:ident $f:ident $hE:term) => `(tactic| (
      try dsimp only
      generalize $hx:ident : expectSemiASI _ _ = x
      obtain ⟨ok, $s:ident⟩ := x
      have $f := semi_facts $hx $hE
      cases ok <;> simp only [Bool.not_true, Bool.not_false, Bool.false_eq_true, if_true, if_false] <;> try rfl))

/-! ### parameter lists (outside the block) -/

theorem tot_paramsLoop : ∀ (n : Nat) (acc : List Ident) (st : PS), M n st → (paramsLoop acc st).isSome = true := by
  intro n
  induction n with
  | zero => intro acc st h; have := h.1.len_pos; have := h.2; omega
  | succ n ih =>
    intro acc st ⟨hE, hn⟩
    rw [paramsLoop]
    split
    next hp =>
      have hp' : st.peek.type = .comma := by simpa using hp
      have h2 := hE.peek (by rw [hp']; decide)
      have a := next_len st; have b := next_len st.next
      exact ih _ _ ⟨hE.next.next, by omega⟩
    next => rfl

theorem tot_params (st : PS) (hE : EofEnd st) : (parseFunctionParameters st).isSome = true := by
  unfold parseFunctionParameters
  split
  · rfl
  · refine bind_ok (fun r hr => steps_of_run (cfg := {}) (c := .paramsLoop [identOfCur st.next]) hr) hE.next (tot_paramsLoop _ _ _ ⟨hE.next, Nat.le_refl _⟩) ?_
    intro a s' hE' _
    simp only
    split <;> rfl

theorem opt_expr_ok {β : Type} (c : Prop) [Decidable c] (is : List EI) (p : Nat) (s : PS) (hE : EofEnd s)
    (h : c → (parseExpressionI cfg is p s.next).isSome = true) {k : Expr × PS → Option β}
    (h2 : ∀ a s', EofEnd s' → s'.toks.length ≤ s.toks.length → (k (a, s')).isSome = true) :
    ((if c then parseExpressionI cfg is p s.next else some (Expr.none, s)) >>= k).isSome = true := by
  refine bind_ok (s := s) ?_ hE ?_ h2
  · intro r hr
    split at hr
    · exact (Steps.next (.refl s)).trans (st_exprI hr)
    · cases hr; exact .refl _
  · split
    · exact h ‹_›
    · rfl

/-! ### level A: every recursive call is on a strictly shorter list -/

section Step
variable {n : Nat} (ih : All cfg n)
include ih

/-- a recursive call for an expression on at most `n` tokens, then a continuation that returns on every state the
    call can leave -/
theorem bind_expr {β : Type} (is : List EI) {p : Nat} (hp : 1 ≤ p) {s : PS} (hE : EofEnd s) (hn : s.toks.length ≤ n)
    {k : Expr × PS → Option β}
    (h2 : ∀ a s', EofEnd s' → s'.toks.length ≤ s.toks.length → (k (a, s')).isSome = true) :
    (parseExpressionI cfg is p s >>= k).isSome = true :=
  bind_ok (fun _ hr => st_exprI hr) hE (ih.exprI _ _ _ hp ⟨hE, hn⟩) h2

/-- the same for a statement -/
theorem bind_stmt {β : Type} (is : List SI) {s : PS} (hE : EofEnd s) (hn : s.toks.length ≤ n) {k : Stmt × PS → Option β}
    (h2 : ∀ a s', EofEnd s' → s'.toks.length ≤ s.toks.length → (k (a, s')).isSome = true) :
    (parseStatementI cfg is s >>= k).isSome = true :=
  bind_ok (fun _ hr => steps_parseStatementI hr) hE (ih.stmtI _ _ ⟨hE, hn⟩) h2

theorem a_letS : ∀ st, M (n + 1) st → (parseLetStatement cfg st).isSome = true := by
  intro st ⟨hE, hn⟩
  rw [parseLetStatement]
  texp hx s1 f1 hE
  · rfl
  split
  · have a := next_len s1; have b := next_len s1.next
    refine bind_expr ih _ (by decide) f1.1.next.next (by omega) ?_
    intro v s2 hE2 hl2
    try dsimp only
    tsemi hy s3 f3 hE2
  · tsemi hy s3 f3 f1.1

theorem a_letE : ∀ st, M (n + 1) st → (parseLetExpression cfg st).isSome = true := by
  intro st ⟨hE, hn⟩
  rw [parseLetExpression]
  texp hx s1 f1 hE
  · rfl
  split
  · have a := next_len s1; have b := next_len s1.next
    refine bind_expr ih _ (by decide) f1.1.next.next (by omega) ?_
    intro v s2 hE2 hl2
    try dsimp only
    rfl
  · rfl

theorem a_ret : ∀ st, M (n + 1) st → (parseReturnStatement cfg st).isSome = true := by
  intro st ⟨hE, hn⟩
  rw [parseReturnStatement]
  split
  next hc =>
    have hpe : st.peek.type ≠ .eof := by
      simp only [Bool.and_eq_true, bne_iff_ne] at hc; exact hc.1.1.2
    have h2 := hE.peek hpe
    have a := next_len st
    refine bind_expr ih _ (by decide) hE.next (by omega) ?_
    intro v s2 hE2 hl2
    try dsimp only
    tsemi hy s3 f3 hE2
  next => tsemi hy s3 f3 hE

/-- `( cond ) stmt`, common to `if` and `while` (`K` is what is done with the two results); `s1` stands on the `(` -/
theorem a_condStmt {K : Expr × PS → Stmt × PS → Option (Stmt × PS)} (s1 : PS) (hE : EofEnd s1) (hn : s1.toks.length ≤ n)
    (hK : ∀ x t s', EofEnd s' → s'.toks.length ≤ n → (K x (t, s')).isSome = true) :
    ((parseExpressionI cfg cfg.exprI LOWEST s1.next) >>= fun x =>
      if (!(expectToken .rparen x.2).1) = true then some (Stmt.none, (expectToken .rparen x.2).2)
      else (parseStatementI cfg cfg.stmtI (expectToken .rparen x.2).2.next) >>= fun y => K x y).isSome = true := by
  have a := next_len s1
  refine bind_expr ih _ (by decide) hE.next (by omega) ?_
  intro c s2 hE2 hl2
  try dsimp only
  texp hy s3 f3 hE2
  · rfl
  have b := next_len s3
  refine bind_stmt ih _ f3.1.next (by omega) ?_
  intro t s4 hE4 hl4
  exact hK (c, s2) t s4 hE4 (by omega)

theorem a_ifS : ∀ st, M (n + 1) st → (parseIfStatement cfg st).isSome = true := by
  intro st ⟨hE, hn⟩
  rw [parseIfStatement]
  texp hx s1 f1 hE
  · rfl
  refine a_condStmt ih s1 f1.1 (by omega) ?_
  intro c t s4 hE4 hl4
  try dsimp only
  split
  · have c := next_len s4; have d := next_len s4.next
    refine bind_stmt ih _ hE4.next.next (by omega) ?_
    intro e s5 _ _
    rfl
  · rfl

theorem a_whileS : ∀ st, M (n + 1) st → (parseWhileStatement cfg st).isSome = true := by
  intro st ⟨hE, hn⟩
  rw [parseWhileStatement]
  texp hx s1 f1 hE
  · rfl
  exact a_condStmt ih s1 f1.1 (by omega) (fun _ _ _ _ _ => rfl)

theorem a_forS : ∀ st, M (n + 1) st → (parseForStatement cfg st).isSome = true := by
  intro st ⟨hE, hn⟩
  rw [parseForStatement]
  texp hx s1 f1 hE
  · rfl
  refine bind_ok (fun r hr => st_forInit hr) f1.1 (ih.forInit _ ⟨f1.1, by omega⟩) ?_
  intro i s2 hE2 hl2
  try dsimp only
  texp hy s3 f3 hE2
  · rfl
  have a := next_len s3
  refine opt_expr_ok _ _ _ s3 f3.1 (fun _ => ih.exprI _ _ _ (by decide) ⟨f3.1.next, by omega⟩) ?_
  intro c s4 hE4 hl4
  try dsimp only
  texp hz s5 f5 hE4
  · rfl
  have b := next_len s5
  refine opt_expr_ok _ _ _ s5 f5.1 (fun _ => ih.exprI _ _ _ (by decide) ⟨f5.1.next, by omega⟩) ?_
  intro u s6 hE6 hl6
  try dsimp only
  texp hw s7 f7 hE6
  · rfl
  have c := next_len s7
  refine bind_stmt ih _ f7.1.next (by omega) ?_
  intro t s8 _ _
  rfl

theorem a_block : ∀ st, st.cur.type ≠ .eof → M (n + 1) st → (parseBlockStatement cfg st).isSome = true := by
  intro st hc ⟨hE, hn⟩
  rw [parseBlockStatement]
  have h2 := hE.cur hc
  have a := next_len (st.push .block)
  simp only [push_toks] at a
  refine bind_ok (fun r hr => st_blockLoop hr) (hE.push _).next (ih.blockLoop _ _ ⟨(hE.push _).next, by omega⟩) ?_
  intro b s2 _ _
  rfl

/-- `( params ) { body }`, common to function declarations and function expressions (`mk` builds the node) -/
theorem a_funcTail {α : Type} (none' : α) (mk : List Ident → Stmt → α) (s0 : PS) (hE0 : EofEnd s0) (hl0 : s0.toks.length ≤ n + 1) :
    (match expectToken .lparen s0 with
     | (ok, st) => if !ok then some (none', st) else
        (parseFunctionParameters st) >>= fun (params, st) =>
          match expectToken .lbrace st with
          | (ok, st) => if !ok then some (none', st) else
            (parseBlockStatement cfg (st.push .function)) >>= fun (body, st) =>
              some (mk params body, st.pop)).isSome = true := by
  texp hy s2 f2 hE0
  · rfl
  refine bind_ok (fun r hr => st_params hr) f2.1 (tot_params _ f2.1) ?_
  intro ps s3 hE3 hl3
  try dsimp only
  texp hz s4 f4 hE3
  · rfl
  refine bind_ok (fun r hr => st_block hr) (f4.1.push _)
    (ih.block _ (by rw [push_cur, f4.2.2.2]; decide) ⟨f4.1.push _, by simp only [push_toks]; omega⟩) ?_
  intro b s5 _ _
  rfl

theorem a_funcS : ∀ st, M (n + 1) st → (parseFunctionStatement cfg st).isSome = true := by
  intro st ⟨hE, hn⟩
  rw [parseFunctionStatement]
  texp hx s1 f1 hE
  · rfl
  exact a_funcTail ih Stmt.none (fun ps b => Stmt.funcD st.cur (identOfCur s1) ps b) s1 f1.1 (by omega)

theorem a_funcE : ∀ st, M (n + 1) st → (parseFunctionExpression cfg st).isSome = true := by
  intro st ⟨hE, hn⟩
  rw [parseFunctionExpression]
  have a := next_len st
  by_cases hc : (st.peek.type == TokType.ident) = true
  · rw [if_pos hc]; exact a_funcTail ih Expr.none _ _ hE.next (by omega)
  · rw [if_neg hc]; exact a_funcTail ih Expr.none _ _ hE hn

theorem a_listLoop : ∀ acc st, M (n + 1) st → (exprListLoop cfg acc st).isSome = true := by
  intro acc st ⟨hE, hn⟩
  rw [exprListLoop]
  split
  next hp =>
    have hp' : st.peek.type = .comma := by simpa using hp
    have h2 := hE.peek (by rw [hp']; decide)
    have a := next_len st; have b := next_len st.next
    refine bind_expr ih _ (by decide) hE.next.next (by omega) ?_
    intro e s2 hE2 hl2
    try dsimp only
    exact ih.listLoop _ _ ⟨hE2, by omega⟩
  next => rfl

theorem a_list : ∀ endTy st, st.cur.type ≠ .eof → M (n + 1) st → (parseExpressionList cfg endTy st).isSome = true := by
  intro endTy st hc ⟨hE, hn⟩
  rw [parseExpressionList]
  have h2 := hE.cur hc
  have a := next_len st
  split
  · rfl
  · refine bind_expr ih _ (by decide) hE.next (by omega) ?_
    intro e s2 hE2 hl2
    try dsimp only
    refine bind_ok (fun r hr => st_listLoop hr) hE2 (ih.listLoop _ _ ⟨hE2, by omega⟩) ?_
    intro es s3 hE3 hl3
    try dsimp only
    generalize expectToken _ _ = x
    obtain ⟨ok, s4⟩ := x
    cases ok <;> rfl

theorem a_objLit : ∀ st, st.cur.type ≠ .eof → M (n + 1) st → (parseObjectLiteral cfg st).isSome = true := by
  intro st hc ⟨hE, hn⟩
  rw [parseObjectLiteral]
  have h2 := hE.cur hc
  have a := next_len st
  dsimp only
  split
  · rfl
  · refine bind_ok (fun r hr => st_objLoop hr) hE.next (ih.objLoop _ _ ⟨hE.next, by omega⟩) ?_
    intro r s2 hE2 hl2
    cases r with
    | none => rfl
    | some props =>
      try dsimp only
      texp hx s3 f3 hE2 <;> rfl

omit ih in
/-- an infix parse function consumes its operator token -/
theorem infix_steps (hT : TablesOk cfg) {left : Expr} {st : PS} {r : Expr × PS} (hE : EofEnd st)
    (h : parseInfixExpression cfg left st = some r) (hk : (lookup cfg.infixFns st.peek.type).isSome = true) :
    r.2.toks.length < st.toks.length := by
  have hne : st.peek.type ≠ .eof := by
    intro e; rw [e, hT.eof_no_infix] at hk; cases hk
  have h2 := hE.peek hne
  have a := next_len st
  suffices hs : Steps st.next r.2 by have := hs.toks_length; omega
  rw [parseInfixExpression] at h
  cases hl : lookup cfg.infixFns st.peek.type with
  | none => rw [hl] at hk; cases hk
  | some kind =>
    rw [hl] at h
    dsimp only at h
    cases kind with
    | binary | assign | compound | member =>
      obtain ⟨⟨e, s1⟩, h1, h2⟩ := bind_some h
      have hs := st_exprI h1
      cases h2
      exact (Steps.next (.refl _)).trans hs
    | call =>
      obtain ⟨⟨e, s1⟩, h1, h2⟩ := bind_some h
      have hs := st_list h1
      cases h2
      exact hs
    | index =>
      obtain ⟨⟨e, s1⟩, h1, h2⟩ := bind_some h
      have hs := (Steps.next (.refl _)).trans (st_exprI h1)
      dsimp only at h2
      split at h2 <;> cases h2 <;> exact steps_expectToken _ hs
    | _ => cases h; exact .refl _

theorem a_inf (hT : TablesOk cfg) : ∀ left st, M (n + 1) st → (parseInfixExpression cfg left st).isSome = true := by
  intro left st ⟨hE, hn⟩
  rw [parseInfixExpression]
  cases hl : lookup cfg.infixFns st.peek.type with
  | none => rfl
  | some kind =>
    have hne : st.peek.type ≠ .eof := by
      intro e; rw [e, hT.eof_no_infix] at hl; cases hl
    have h2 := hE.peek hne
    have a := next_len st; have b := next_len st.next
    have hcur : st.next.cur.type ≠ .eof := by
      have : st.next.cur = st.peek := by unfold PS.next PS.cur PS.peek; split <;> simp_all
      rw [this]; exact hne
    cases kind with
    | binary =>
      refine bind_expr ih _ (hT.prec_pos _) hE.next.next (by omega) ?_
      intro e s2 _ _; rfl
    | assign | compound | member =>
      refine bind_expr ih _ (by decide) hE.next.next (by omega) ?_
      intro e s2 _ _; rfl
    | call =>
      refine bind_ok (fun r hr => st_list hr) hE.next (ih.list _ _ hcur ⟨hE.next, by omega⟩) ?_
      intro e s2 _ _; rfl
    | index =>
      refine bind_expr ih _ (by decide) hE.next.next (by omega) ?_
      intro e s2 hE2 _
      try dsimp only
      texp hx s3 f3 hE2 <;> rfl
    | _ => rfl

/-! ### levels B – H: same-size calls go to a function handled earlier -/

theorem b_pfx (hT : TablesOk cfg) : ∀ st, M (n + 1) st → (parsePrefixExpression cfg st).isSome = true := by
  intro st ⟨hE, hn⟩
  rw [parsePrefixExpression]
  cases hl : lookup cfg.prefixFns st.cur.type with
  | none => rfl
  | some kind =>
    have hne : st.cur.type ≠ .eof := by
      intro e; rw [e, hT.eof_no_prefix] at hl; cases hl
    have h2 := hE.cur hne
    have a := next_len st
    cases kind <;> dsimp only
    · rfl
    · split <;> rfl
    · split <;> rfl
    · rfl
    · rfl
    · rfl
    · rfl
    · refine bind_expr ih _ (by decide) hE.next (by omega) ?_
      intro e s2 _ _; rfl
    · refine bind_expr ih _ (by decide) hE.next (by omega) ?_
      intro e s2 hE2 _
      try dsimp only
      texp hx s3 f3 hE2 <;> rfl
    · refine bind_ok (fun r hr => st_list hr) hE (a_list ih _ _ hne ⟨hE, hn⟩) ?_
      intro e s2 _ _; rfl
    · exact a_objLit ih _ hne ⟨hE, hn⟩
    · exact a_funcE ih _ ⟨hE, hn⟩

theorem c_rem (hT : TablesOk cfg) : ∀ left prec st, 1 ≤ prec → M (n + 1) st → (parseRemaining cfg left prec st).isSome = true := by
  intro left prec st hp ⟨hE, hn⟩
  rw [parseRemaining]
  split
  next hc =>
    split
    · rfl
    split
    · rfl
    · have hk : (lookup cfg.infixFns st.peek.type).isSome = true := by
        simp only [Bool.and_eq_true, decide_eq_true_eq] at hc
        exact hT.infix_of_prec _ (by have := hc.2; unfold peekPrecedence at this; omega)
      cases hf : parseInfixExpression cfg left st with
      | none => have := a_inf ih hT left st ⟨hE, hn⟩; rw [hf] at this; cases this
      | some r =>
        have hlt := infix_steps hT hE hf hk
        have hE2 := (st_infix hf).eofEnd hE
        simp only [Option.bind_eq_bind, Option.bind_some]
        exact ih.rem _ _ _ hp ⟨hE2, by omega⟩
  next => rfl

theorem d_exprI (hT : TablesOk cfg) : ∀ is prec st, 1 ≤ prec → M (n + 1) st → (parseExpressionI cfg is prec st).isSome = true := by
  intro is
  induction is with
  | nil =>
    intro prec st hp ⟨hE, hn⟩
    rw [parseExpressionI]
    refine bind_ok (fun r hr => st_prefix hr) hE (b_pfx ih hT _ ⟨hE, hn⟩) ?_
    intro l s2 hE2 hl2
    exact c_rem ih hT _ _ _ hp ⟨hE2, by omega⟩
  | cons i rest ihl =>
    intro prec st hp ⟨hE, hn⟩
    rw [parseExpressionI]
    dsimp only
    cases i.kind <;> dsimp only
    · refine bind_ok (fun r hr => st_exprI hr) (hE.of_toks rfl) (ihl _ _ hp ⟨hE.of_toks rfl, hn⟩) ?_
      intro e s2 _ _; rfl
    · have hp1 := b_pfx ih hT { st with curPrec := prec, trace := st.trace ++ [st.event true i.id] } ⟨hE.of_toks rfl, hn⟩
      cases hf : parsePrefixExpression cfg { st with curPrec := prec, trace := st.trace ++ [st.event true i.id] } with
      | none => rw [hf] at hp1; cases hp1
      | some r =>
      obtain ⟨l, s2⟩ := r
      have hS := st_prefix hf
      have hE2 : EofEnd s2 := hS.eofEnd (hE.of_toks rfl)
      have hl2 := hS.toks_length
      have hcp : s2.curPrec = prec := hS.curPrec_eq
      simp only [Option.bind_eq_bind, Option.bind_some]
      refine bind_ok (fun r hr => st_rem hr) hE2 (c_rem ih hT _ _ _ (by rw [hcp]; exact hp) ⟨hE2, by simp only at hl2; omega⟩) ?_
      intro e s3 _ _; rfl

theorem e_objLoop (hT : TablesOk cfg) : ∀ acc st, M (n + 1) st → (objectLoop cfg acc st).isSome = true := by
  intro acc st ⟨hE, hn⟩
  rw [objectLoop]
  refine bind_ok (fun r hr => st_exprI hr) hE (d_exprI ih hT _ _ _ (by decide) ⟨hE, hn⟩) ?_
  intro k s2 hE2 hl2
  try dsimp only
  texp hx s3 f3 hE2
  · rfl
  have a := next_len s3
  refine bind_expr ih _ (by decide) f3.1.next (by omega) ?_
  intro v s4 hE4 hl4
  try dsimp only
  split
  · rfl
  · have b := next_len s4; have c := next_len s4.next
    exact ih.objLoop _ _ ⟨hE4.next.next, by omega⟩

theorem e_forInit (hT : TablesOk cfg) : ∀ st, M (n + 1) st → (parseForInit cfg st).isSome = true := by
  intro st ⟨hE, hn⟩
  rw [parseForInit]
  have a := next_len st
  split
  · dsimp only
    split
    · exact a_letE ih _ ⟨hE.next, by omega⟩
    · exact d_exprI ih hT _ _ _ (by decide) ⟨hE.next, by omega⟩
  · rfl

theorem e_exprStmt (hT : TablesOk cfg) : ∀ st, M (n + 1) st → (parseExpressionStatement cfg st).isSome = true := by
  intro st ⟨hE, hn⟩
  rw [parseExpressionStatement]
  refine bind_ok (fun r hr => st_exprI hr) hE (d_exprI ih hT _ _ _ (by decide) ⟨hE, hn⟩) ?_
  intro e s2 hE2 hl2
  try dsimp only
  tsemi hy s3 f3 hE2

theorem f_base (hT : TablesOk cfg) : ∀ st, M (n + 1) st → (baseParseStatement cfg st).isSome = true := by
  intro st hM
  rw [baseParseStatement.eq_def]
  split
  · exact a_letS ih _ hM
  · exact a_funcS ih _ hM
  · exact a_ret ih _ hM
  · exact a_ifS ih _ hM
  · exact a_whileS ih _ hM
  · exact a_forS ih _ hM
  · next h => exact a_block ih _ (by rw [h]; decide) hM
  · exact e_exprStmt ih hT _ hM

theorem g_stmtI (hT : TablesOk cfg) : ∀ is st, M (n + 1) st → (parseStatementI cfg is st).isSome = true := by
  intro is
  induction is with
  | nil => intro st hM; rw [parseStatementI]; exact f_base ih hT _ hM
  | cons i rest ihl =>
    intro st hM
    rw [parseStatementI]
    exact ihl _ ⟨hM.1.of_toks rfl, hM.2⟩

theorem h_blockLoop (hT : TablesOk cfg) : ∀ acc st, M (n + 1) st → (blockLoop cfg acc st).isSome = true := by
  intro acc st ⟨hE, hn⟩
  rw [blockLoop]
  split
  next hc =>
    have hne : st.cur.type ≠ .eof := by
      simp only [Bool.and_eq_true, bne_iff_ne] at hc; exact hc.2
    have h2 := hE.cur hne
    refine bind_ok (fun r hr => steps_parseStatementI hr) hE (g_stmtI ih hT _ _ ⟨hE, hn⟩) ?_
    intro s s2 hE2 hl2
    try dsimp only
    have a := next_len s2
    have := hE2.len_pos
    exact ih.blockLoop _ _ ⟨hE2.next, by omega⟩
  next => rfl

end Step

/-- everything returns, on every EOF-terminated token list -/
theorem all (hT : TablesOk cfg) : ∀ n, All cfg n := by
  intro n
  induction n with
  | zero =>
    have z : ∀ st, M 0 st → False := fun st h => by have := h.1.len_pos; have := h.2; omega
    constructor <;> intros <;> exact absurd ‹M 0 _› (fun h => z _ h)
  | succ n ih =>
    exact {
      stmtI := g_stmtI ih hT, base := f_base ih hT, exprStmt := e_exprStmt ih hT, exprI := d_exprI ih hT,
      rem := c_rem ih hT, inf := a_inf ih hT, list := a_list ih, listLoop := a_listLoop ih, pfx := b_pfx ih hT,
      funcE := a_funcE ih, block := a_block ih, blockLoop := h_blockLoop ih hT, objLit := a_objLit ih,
      objLoop := e_objLoop ih hT, forS := a_forS ih, forInit := e_forInit ih hT, letE := a_letE ih,
      whileS := a_whileS ih, ifS := a_ifS ih, ret := a_ret ih, funcS := a_funcS ih, letS := a_letS ih }

/-- the statement loop of `ParseProgram` returns -/
theorem tot_programLoop (hT : TablesOk cfg) : ∀ (n : Nat) (acc : StmtList) (st : PS), M n st → (programLoop cfg acc st).isSome = true := by
  intro n
  induction n with
  | zero => intro acc st h; have := h.1.len_pos; have := h.2; omega
  | succ n ih =>
    intro acc st ⟨hE, hn⟩
    rw [programLoop]
    split
    next hc =>
      have hne : st.cur.type ≠ .eof := by simpa using hc
      have h2 := hE.cur hne
      refine bind_ok (fun r hr => steps_parseStatementI hr) hE ((all hT (n + 1)).stmtI _ _ ⟨hE, hn⟩) ?_
      intro s s2 hE2 hl2
      try dsimp only
      have a := next_len s2
      have := hE2.len_pos
      exact ih _ _ ⟨hE2.next, by omega⟩
    next => rfl

/-- PARSING TERMINATES: on every EOF-terminated token list `ParseProgram` returns a result -/
theorem parseProgram_total (hT : TablesOk cfg) (toks : List Token)
    (hend : ∃ pre e, toks = pre ++ [e] ∧ e.type = .eof) : ∃ r, parseProgram cfg toks = some r := by
  unfold parseProgram
  have h := tot_programLoop hT toks.length .nil (PS.init toks) ⟨hend, Nat.le_refl _⟩
  cases hf : programLoop cfg .nil (PS.init toks) with
  | none => rw [hf] at h; cases h
  | some r => exact ⟨_, rfl⟩

end Xjs.Total
