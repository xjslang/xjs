import XjsModel.Proofs.LexPrintTok
/-
  Tokens that come out of the lexer are lexically sane as far as spelling goes: an operator, delimiter or keyword token
  carries the fixed spelling of its type, an identifier token is an identifier. (For trees that come out of the parser
  only the number / string / backtick literals need a hypothesis in the print → lex theorem.)
-/
namespace Xjs.LP
open Xjs

theorem canon_lookupIdent (lit : Bytes) (h : canon (lookupIdent lit) ≠ []) : lit = canon (lookupIdent lit) := by
  rcases lookupIdent_cases lit with hi | hk
  · rw [hi] at h; exact absurd rfl h
  · exact (by decide : ∀ kv ∈ keywordTable, kv.1 = canon kv.2) _ hk

theorem ops_spelling : (∀ e ∈ ops1, byteAsRuneString e.1 = canon e.2 ∧ e.2 ≠ .ident) ∧
    (∀ e ∈ ops2, byteAsRuneString e.1 ++ byteAsRuneString e.2.1 = canon e.2.2 ∧ e.2.2 ≠ .ident) := by decide

/-- FIXED SPELLING: a token of a type that has a fixed spelling carries that spelling -/
theorem lexed_fixed_spelling (nl : Bool) (cs : List Bytes) (s : LS) :
    canon (baseNextToken nl cs s).1.type ≠ [] → (baseNextToken nl cs s).1.lit = canon (baseNextToken nl cs s).1.type := by
  have hb := baseNextToken_cases nl cs s
  generalize baseNextToken nl cs s = r at hb ⊢
  intro h
  cases hb with
  | one c _ ty hrow => exact (ops_spelling.1 _ hrow).1
  | two c p _ _ ty hrow => exact (ops_spelling.2 _ hrow).1
  | bad | eof => exact absurd rfl h
  | str | raw => simp only [mkTok] at h; split at h <;> exact absurd rfl h
  | word => exact canon_lookupIdent _ h
  | num => rcases scanNumber_type s.rest with e | e <;> simp only [mkTok, e] at h <;> exact absurd rfl h

theorem take_takeWhile_length (p : Nat → Bool) : ∀ (l : Bytes), l.take (l.takeWhile p).length = l.takeWhile p
  | [] => rfl
  | x :: l => by
    by_cases h : p x = true
    · simp [h, take_takeWhile_length p l]
    · simp [h]

/-- IDENTIFIERS: a token of type IDENT is a letter followed by letters and digits, and no keyword -/
theorem lexed_ident_ok (nl : Bool) (cs : List Bytes) (s : LS) :
    (baseNextToken nl cs s).1.type = .ident → identOk (baseNextToken nl cs s).1.lit = true := by
  have hb := baseNextToken_cases nl cs s
  generalize baseNextToken nl cs s = r at hb ⊢
  intro h
  cases hb with
  | one c _ ty hrow => exact absurd h (ops_spelling.1 _ hrow).2
  | two c p _ _ ty hrow => exact absurd h (ops_spelling.2 _ hrow).2
  | bad | eof => cases h
  | str | raw => simp only [mkTok] at h; split at h <;> cases h
  | num => rcases scanNumber_type s.rest with e | e <;> simp only [mkTok, e] at h <;> cases h
  | word c hc hl =>
    subst hc
    simp only [mkTok] at h ⊢
    have hne : s.rest ≠ [] := by
      intro e; rw [cur_eq, e] at hl; exact absurd hl (by decide)
    obtain ⟨r, hr⟩ := cur_rest s hne
    have hlit : s.rest.take (identLen s.rest) = s.rest.takeWhile isWordByte := take_takeWhile_length isWordByte s.rest
    rw [hlit] at h ⊢
    have htw : s.rest.takeWhile isWordByte = s.cur :: r.takeWhile isWordByte := by
      rw [hr, List.takeWhile_cons]; simp [isWordByte, hl]
    unfold identOk
    rw [htw] at h ⊢
    simp only [Bool.and_eq_true, beq_iff_eq, List.all_eq_true]
    refine ⟨⟨hl, ?_⟩, h⟩
    intro x hx
    rw [← htw] at hx
    exact (List.all_eq_true.1 (List.all_takeWhile (p := isWordByte) (l := s.rest))) x hx

/-- the same for whole token requests -/
theorem nextToken_sane (s : LS) :
    (canon (nextToken s).1.type ≠ [] → (nextToken s).1.lit = canon (nextToken s).1.type) ∧
    ((nextToken s).1.type = .ident → identOk (nextToken s).1.lit = true) := by
  unfold nextToken
  exact ⟨lexed_fixed_spelling _ _ _, lexed_ident_ok _ _ _⟩

end Xjs.LP
