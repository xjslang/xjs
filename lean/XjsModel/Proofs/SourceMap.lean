import XjsModel.Model.SourceMap
import XjsModel.Spec.SourceMapV3
/-
  The source map: VLQ round trip, the encoder loop against the decoder (C09); the invariants of the builder and the
  interning of names; the writer's position tracking against the counting specification (C08).
-/
namespace Xjs
open Xjs.Spec

/-! ## VLQ -/

/-- the Base64 table read through the alphabet of the specification: a fixed table, by evaluation -/
theorem b64val_table : base64Table.map b64val = (List.range 64).map some := by decide

theorem b64val_base64Char (d : Nat) (hd : d < 64) : b64val (base64Char d) = some d := by
  have h : (base64Table.map b64val)[d]? = some (some d) := by
    rw [b64val_table, List.getElem?_map, List.getElem?_range hd]
    rfl
  rw [List.getElem?_map, Option.map_eq_some_iff] at h
  obtain ⟨c, hc, hv⟩ := h
  rw [base64Char, List.getD_eq_getElem?_getD, hc]
  exact hv

theorem vlqGroups_lt (fuel n : Nat) : ∀ d ∈ vlqGroups fuel n, d < 64 := by
  induction fuel generalizing n with
  | zero => intro d hd; simp [vlqGroups] at hd; omega
  | succ fuel ih =>
    intro d hd
    unfold vlqGroups at hd
    split at hd
    · simp only [List.mem_cons] at hd
      rcases hd with h | h
      · omega
      · exact ih _ d h
    · simp at hd; omega

theorem vlqGroups_ne_nil (fuel n : Nat) : vlqGroups fuel n ≠ [] := by
  cases fuel <;> simp [vlqGroups] <;> split <;> simp

theorem decVlqNat_groups (fuel n : Nat) (h : n ≤ fuel) (rest : Bytes) :
    decVlqNat ((vlqGroups fuel n).map base64Char ++ rest) = some (n, rest) := by
  induction fuel generalizing n with
  | zero =>
    obtain rfl : n = 0 := by omega
    simp [vlqGroups, decVlqNat, b64val_base64Char 0 (by omega)]
  | succ fuel ih =>
    unfold vlqGroups
    split
    · simp only [List.map_cons, List.cons_append, decVlqNat, b64val_base64Char _ (show n % 32 + 32 < 64 by omega),
        ih (n / 32) (by omega), if_neg (show ¬ n % 32 + 32 < 32 by omega)]
      simp only [Option.some.injEq, Prod.mk.injEq, and_true]
      omega
    · simp only [List.map_cons, List.map_nil, List.cons_append, List.nil_append, decVlqNat,
        b64val_base64Char _ (show n % 32 < 64 by omega), if_pos (show n % 32 < 32 by omega)]
      simp only [Option.some.injEq, Prod.mk.injEq, and_true]
      omega

theorem fromVlqSigned_vlqSigned (n : Int) : fromVlqSigned (vlqSigned n) = n := by
  unfold fromVlqSigned vlqSigned
  split <;> split <;> omega

theorem decVlq_encodeVLQ (n : Int) (rest : Bytes) : decVlq (encodeVLQ n ++ rest) = some (n, rest) := by
  unfold decVlq encodeVLQ
  rw [decVlqNat_groups _ _ (Nat.le_refl _)]
  simp [fromVlqSigned_vlqSigned]

theorem encodeVLQ_ne_nil (n : Int) : encodeVLQ n ≠ [] := by
  unfold encodeVLQ
  simp [vlqGroups_ne_nil]

theorem encodeVLQ_alphabet (n : Int) : ∀ c ∈ encodeVLQ n, (b64val c).isSome := by
  intro c hc
  obtain ⟨d, hd, rfl⟩ := List.mem_map.1 hc
  rw [b64val_base64Char d (vlqGroups_lt _ _ d hd)]
  rfl

/-- a VLQ begins with a Base64 digit, and the separators are none -/
theorem encodeVLQ_head (n : Int) : ∃ c cs, encodeVLQ n = c :: cs ∧ c ≠ 44 ∧ c ≠ 59 := by
  match h : encodeVLQ n with
  | [] => exact absurd h (encodeVLQ_ne_nil n)
  | c :: cs =>
    have hc := encodeVLQ_alphabet n c (by rw [h]; exact List.mem_cons_self)
    exact ⟨c, cs, rfl, by rintro rfl; exact absurd hc (by decide), by rintro rfl; exact absurd hc (by decide)⟩

/-! ## readFields on encoder output -/

/-- `s` is the end of the string or begins with a separator -/
def AtSep (s : Bytes) : Prop := ∀ c ∈ s.head?, c = 44 ∨ c = 59

theorem not_atSep_encodeVLQ (n : Int) (rest : Bytes) : ¬ AtSep (encodeVLQ n ++ rest) := by
  obtain ⟨c, cs, hc, h44, h59⟩ := encodeVLQ_head n
  simp [AtSep, hc, h44, h59]

theorem readFields_atSep (rest : Bytes) (h : AtSep rest) : readFields rest = some ([], rest) := by
  rw [readFields.eq_def]
  cases rest with
  | nil => rfl
  | cons c cs =>
    have : c = 44 ∨ c = 59 := by simpa [AtSep] using h
    simp [this]

theorem readFields_vlq (n : Int) (rest : Bytes) (vs : List Int) (r : Bytes)
    (h : readFields rest = some (vs, r)) : readFields (encodeVLQ n ++ rest) = some (n :: vs, r) := by
  obtain ⟨c, cs, hc, h44, h59⟩ := encodeVLQ_head n
  rw [readFields.eq_def]
  have hd := decVlq_encodeVLQ n rest
  rw [hc] at hd ⊢
  simp only [List.cons_append] at hd ⊢
  simp only [h44, h59, or_self, if_false, hd]
  simp [h]

/-! ## decoder steps -/

theorem decodeFrom_nil (d : DState) : decodeFrom [] d = some [] := by
  rw [decodeFrom.eq_def]

theorem decodeFrom_semi (rest : Bytes) (d : DState) :
    decodeFrom (59 :: rest) d = decodeFrom rest { d with genLine := d.genLine + 1, genCol := 0 } := by
  rw [decodeFrom.eq_def]; simp

theorem decodeFrom_comma (rest : Bytes) (d : DState) : decodeFrom (44 :: rest) d = decodeFrom rest d := by
  rw [decodeFrom.eq_def]; simp

theorem decodeFrom_semis (k : Nat) (rest : Bytes) (d : DState) (hk : 0 < k) :
    decodeFrom (List.replicate k 59 ++ rest) d
      = decodeFrom rest { d with genLine := d.genLine + k, genCol := 0 } := by
  induction k generalizing d with
  | zero => omega
  | succ k ih =>
    simp only [List.replicate_succ, List.cons_append]
    rw [decodeFrom_semi]
    by_cases hk0 : k = 0
    · subst hk0; simp
    · rw [ih _ (by omega)]
      congr 1
      simp only [DState.mk.injEq, and_true]
      omega

theorem decodeFrom_seg4 {s rest : Bytes} {a b c e : Int} (hs : ¬ AtSep s)
    (hr : readFields s = some ([a, b, c, e], rest)) (d : DState) :
    decodeFrom s d =
      (decodeFrom rest { d with genCol := d.genCol + a, srcIdx := d.srcIdx + b, srcLine := d.srcLine + c,
                                srcCol := d.srcCol + e }).bind fun segs =>
        some ({ genLine := d.genLine, genCol := d.genCol + a,
                source := some (d.srcIdx + b, d.srcLine + c, d.srcCol + e) } :: segs) := by
  rw [decodeFrom.eq_def]
  cases s with
  | nil => exact absurd (by simp [AtSep]) hs
  | cons ch cs =>
    simp only [AtSep, List.head?_cons, Option.mem_def, Option.some.injEq, forall_eq', not_or] at hs
    simp [hs.1, hs.2, hr]

theorem decodeFrom_seg5 {s rest : Bytes} {a b c e n : Int} (hs : ¬ AtSep s)
    (hr : readFields s = some ([a, b, c, e, n], rest)) (d : DState) :
    decodeFrom s d =
      (decodeFrom rest { d with genCol := d.genCol + a, srcIdx := d.srcIdx + b, srcLine := d.srcLine + c,
                                srcCol := d.srcCol + e, name := d.name + n }).bind fun segs =>
        some ({ genLine := d.genLine, genCol := d.genCol + a,
                source := some (d.srcIdx + b, d.srcLine + c, d.srcCol + e), name := some (d.name + n) } :: segs) := by
  rw [decodeFrom.eq_def]
  cases s with
  | nil => exact absurd (by simp [AtSep]) hs
  | cons ch cs =>
    simp only [AtSep, List.head?_cons, Option.mem_def, Option.some.injEq, forall_eq', not_or] at hs
    simp [hs.1, hs.2, hr]

/-! ## the encoder loop against the decoder -/

/-- the decoder state at the point of the string the encoder has reached: both hold the previous value of every
    delta-coded field -/
def EncState.dstate (st : EncState) : DState :=
  { genLine := st.curLine, genCol := st.prevGenCol, srcIdx := 0, srcLine := st.prevSrcLine, srcCol := st.prevSrcCol,
    name := st.prevName }

def Mapping.toSeg (m : Mapping) : Seg :=
  { genLine := m.genLine, genCol := m.genCol, source := some (0, m.srcLine, m.srcCol),
    name := m.name.map (fun i => (i : Int)) }

theorem newLines_curLine (st : EncState) (l : Int) (h : st.curLine ≤ l) :
    (st.newLines (l - st.curLine).toNat).curLine = l := by
  unfold EncState.newLines
  split
  · simp only; omega
  · omega

theorem encodeStep_segs (st : EncState) (m : Mapping) : 0 < (encodeStep st m).2.segs := by
  unfold encodeStep; cases m.name <;> simp

theorem encodeStep_curLine (st : EncState) (m : Mapping) (h : st.curLine ≤ m.genLine) :
    (encodeStep st m).2.curLine = m.genLine := by
  unfold encodeStep
  cases m.name <;> exact newLines_curLine st _ h

theorem encodeFrom_atSep (st : EncState) (ms : List Mapping) (h : 0 < st.segs) :
    AtSep (encodeFrom st ms) := by
  cases ms with
  | nil => simp [AtSep, encodeFrom]
  | cons m ms =>
    unfold encodeFrom encodeStep
    cases (m.genLine - st.curLine).toNat with
    | zero => cases m.name <;> simp [AtSep, EncState.newLines, h]
    | succ k => cases m.name <;> simp [AtSep, List.replicate_succ]

/-- the decoder skips the `k` semicolons and the comma -/
theorem decodeFrom_pre (st : EncState) (k : Nat) (t : Bytes) :
    decodeFrom (List.replicate k 59 ++ ((if (st.newLines k).segs > 0 then [44] else []) ++ t)) st.dstate
      = decodeFrom t (st.newLines k).dstate := by
  unfold EncState.newLines
  by_cases hk : 0 < k
  · rw [decodeFrom_semis k _ _ hk]
    simp [hk, EncState.dstate]
  · obtain rfl : k = 0 := by omega
    simp only [Nat.lt_irrefl, if_false, List.replicate_zero, List.nil_append]
    split
    · exact decodeFrom_comma _ _
    · rfl

/-- one iteration of the encoder loop is read back as one segment -/
theorem decodeFrom_encodeStep (st : EncState) (m : Mapping) (tail : Bytes) (hle : st.curLine ≤ m.genLine)
    (htail : AtSep tail) :
    decodeFrom ((encodeStep st m).1 ++ tail) st.dstate
      = (decodeFrom tail (encodeStep st m).2.dstate).bind fun segs => some (m.toSeg :: segs) := by
  have hline := newLines_curLine st _ hle
  have h0 := readFields_atSep tail htail
  have hadd : ∀ prev new : Int, prev + (new - prev) = new := by omega
  unfold encodeStep Mapping.toSeg
  cases m.name with
  | none =>
    simp only [List.append_assoc]
    rw [decodeFrom_pre, decodeFrom_seg4 (not_atSep_encodeVLQ _ _)
      (readFields_vlq _ _ _ _ (readFields_vlq _ _ _ _ (readFields_vlq _ _ _ _ (readFields_vlq _ _ _ _ h0))))]
    simp [EncState.dstate, hline, hadd]
  | some i =>
    simp only [List.append_assoc]
    rw [decodeFrom_pre, decodeFrom_seg5 (not_atSep_encodeVLQ _ _)
      (readFields_vlq _ _ _ _ (readFields_vlq _ _ _ _ (readFields_vlq _ _ _ _ (readFields_vlq _ _ _ _
        (readFields_vlq _ _ _ _ h0)))))]
    simp [EncState.dstate, hline, hadd]

theorem decode_encodeFrom (ms : List Mapping) (st : EncState) (hlo : ∀ m ∈ ms, st.curLine ≤ m.genLine)
    (hM : ms.Pairwise (fun a b => a.genLine ≤ b.genLine)) :
    decodeFrom (encodeFrom st ms) st.dstate = some (ms.map Mapping.toSeg) := by
  induction ms generalizing st with
  | nil => exact decodeFrom_nil _
  | cons m ms ih =>
    have hle := hlo m List.mem_cons_self
    rw [List.pairwise_cons] at hM
    rw [encodeFrom, decodeFrom_encodeStep st m _ hle (encodeFrom_atSep _ ms (encodeStep_segs st m)),
      ih _ (by rw [encodeStep_curLine st m hle]; exact hM.1) hM.2]
    rfl

/-! ## invariants of the builder over operation sequences -/

theorem advanceBytes_line_ge (s : Bytes) (p : Int × Int) : p.1 ≤ (advanceBytes s p).1 := by
  fun_induction advanceBytes s p <;> simp_all <;> omega

/-- invariant: recorded generated lines are non-negative, non-decreasing and not beyond the current line -/
def MapperInv (m : Mapper) : Prop :=
  0 ≤ m.genLine ∧ (∀ mp ∈ m.mappings, 0 ≤ mp.genLine ∧ mp.genLine ≤ m.genLine) ∧
    m.mappings.Pairwise (fun a b => a.genLine ≤ b.genLine)

theorem mapperInv_new : MapperInv Mapper.new := by
  simp [MapperInv, Mapper.new]

/-- recording a mapping at the current line -/
theorem MapperInv.push {m m' : Mapper} {x : Mapping} (h : MapperInv m) (hm : m'.mappings = m.mappings ++ [x])
    (hx : x.genLine = m.genLine) (hl : m'.genLine = m.genLine) : MapperInv m' := by
  obtain ⟨h0, hr, hp⟩ := h
  refine ⟨hl ▸ h0, ?_, ?_⟩
  · intro mp hmp
    rw [hm, List.mem_append, List.mem_singleton] at hmp
    rcases hmp with hmp | rfl
    · exact hl ▸ hr mp hmp
    · omega
  · rw [hm, List.pairwise_append]
    exact ⟨hp, List.pairwise_singleton _ _, fun a ha b hb => by rw [List.mem_singleton.1 hb, hx]; exact (hr a ha).2⟩

/-- moving the current line forward -/
theorem MapperInv.advance {m m' : Mapper} (h : MapperInv m) (hm : m'.mappings = m.mappings)
    (hl : m.genLine ≤ m'.genLine) : MapperInv m' := by
  obtain ⟨h0, hr, hp⟩ := h
  exact ⟨Int.le_trans h0 hl, fun mp hmp => ⟨(hr mp (hm ▸ hmp)).1, Int.le_trans (hr mp (hm ▸ hmp)).2 hl⟩, hm ▸ hp⟩

theorem mapperInv_step (m : Mapper) (op : MapOp) (h : MapperInv m) : MapperInv (m.step op) := by
  cases op with
  | map sl sc => exact h.push rfl rfl rfl
  | named sl sc n =>
    simp only [Mapper.step, Mapper.addNamedMapping]
    split <;> exact h.push rfl rfl rfl
  | advCol n => exact h
  | advStr s => exact h.advance rfl (advanceBytes_line_ge s (m.genLine, m.genCol))
  | advLine => exact h.advance rfl (Int.le_add_of_nonneg_right (by decide))

theorem mapperInv_run (ops : List MapOp) : MapperInv (Mapper.run ops) :=
  List.foldlRecOn ops Mapper.step mapperInv_new fun m hm op _ => mapperInv_step m op hm

/-! ## names -/

/-- names are distinct, and every name index stored in a mapping points into `names` -/
def NamesInv (m : Mapper) : Prop :=
  m.names.Nodup ∧ ∀ mp ∈ m.mappings, ∀ i, mp.name = some i → i < m.names.length

/-- a name that is found is stored at the index returned, which is that of its first occurrence -/
theorem nameIndexOf_some {names : List Bytes} {name : Bytes} {i : Nat} (h : nameIndexOf names name = some i) :
    names[i]? = some name ∧ ∀ j, j < i → names[j]? ≠ some name := by
  unfold nameIndexOf at h
  simp only at h
  split at h
  · rename_i hlt
    obtain rfl := Option.some.inj h
    constructor
    · rw [List.getElem?_eq_getElem hlt]
      exact congrArg some (by simpa using List.findIdx_getElem (w := hlt))
    · intro j hj hjn
      obtain ⟨_, hjn⟩ := List.getElem?_eq_some_iff.1 hjn
      simpa [hjn] using List.not_of_lt_findIdx hj
  · cases h

theorem nameIndexOf_none {names : List Bytes} {name : Bytes} (h : nameIndexOf names name = none) : name ∉ names := by
  unfold nameIndexOf at h
  simp only at h
  split at h
  · cases h
  · rename_i hge
    exact fun hmem => hge (List.findIdx_lt_length_of_exists ⟨name, hmem, by simp⟩)

theorem addNamedMapping_index (m : Mapper) (sl sc : Int) (name : Bytes) :
    ∃ i, ((m.addNamedMapping sl sc name).mappings.getLast?.bind (·.name)) = some i ∧
         (m.addNamedMapping sl sc name).names[i]? = some name ∧
         ∀ j, j < i → (m.addNamedMapping sl sc name).names[j]? ≠ some name := by
  unfold Mapper.addNamedMapping
  cases hn : nameIndexOf m.names name with
  | some i => exact ⟨i, by simp, nameIndexOf_some hn⟩
  | none =>
    refine ⟨m.names.length, by simp, by simp, ?_⟩
    intro j hj hjn
    simp only at hjn
    rw [List.getElem?_append_left hj] at hjn
    exact nameIndexOf_none hn (List.mem_of_getElem? hjn)

/-- an operation leaves `names` alone or appends one name that was not there -/
theorem Mapper.step_names (m : Mapper) (op : MapOp) :
    (m.step op).names = m.names ∨ ∃ n, n ∉ m.names ∧ (m.step op).names = m.names ++ [n] := by
  cases op with
  | named sl sc n =>
    simp only [Mapper.step, Mapper.addNamedMapping]
    cases hn : nameIndexOf m.names n with
    | some i => exact Or.inl rfl
    | none => exact Or.inr ⟨n, nameIndexOf_none hn, rfl⟩
  | _ => exact Or.inl rfl

/-! ## position tracking equals the counting specification -/

theorem countBreaks_of_none (s : Bytes) (h : afterLastBreak s = none) : countBreaks s = 0 := by
  induction s with
  | nil => rfl
  | cons c rest ih =>
    simp only [afterLastBreak] at h
    cases hr : afterLastBreak rest with
    | some t => simp [hr] at h
    | none =>
      simp only [hr] at h
      by_cases hb : endsBreak c rest = true
      · simp [hb] at h
      · simp only [countBreaks, hb, ih hr]; simp

theorem positionAfter_cons (c : Nat) (rest : Bytes) (p : Int × Int) :
    positionAfter (c :: rest) p
      = positionAfter rest (if endsBreak c rest then (p.1 + 1, 0) else (p.1, p.2 + 1)) := by
  unfold positionAfter
  simp only [afterLastBreak, countBreaks]
  cases hr : afterLastBreak rest with
  | some t => cases endsBreak c rest <;> simp <;> omega
  | none => cases endsBreak c rest <;> simp [countBreaks_of_none rest hr] <;> omega

theorem advanceBytes_spec (s : Bytes) (p : Int × Int) : advanceBytes s p = positionAfter s p := by
  fun_induction advanceBytes s p with
  | case1 p => simp [positionAfter, afterLastBreak]
  | case2 rest l c ih =>
    rw [ih, positionAfter_cons, positionAfter_cons]
    simp [endsBreak]
  | case3 rest l c hne ih =>
    have hb : endsBreak 13 rest = true := by
      cases rest with
      | nil => rfl
      | cons a t =>
        have : a ≠ 10 := fun h => hne t (by rw [h])
        simp [endsBreak, this]
    rw [ih, positionAfter_cons, hb]
    rfl
  | case4 rest l c ih =>
    rw [ih, positionAfter_cons]
    simp [endsBreak]
  | case5 ch rest l c h1 h2 h3 ih =>
    have hb : endsBreak ch rest = false := by
      have h10 : ch ≠ 10 := fun h => h3 h
      have h13 : ch ≠ 13 := fun h => h2 h
      simp [endsBreak, h10, h13]
    rw [ih, positionAfter_cons, hb]
    rfl

end Xjs
