import XjsModel.Proofs.ParserFrame
/-
  Provenance (C12 / C15): every token stored in a tree the parser returns satisfies any predicate that all input
  tokens satisfy (and that the end-of-input repeats satisfy) — the tree's tokens are the input's tokens, as full
  records, trivia included. For every input, mode and table, whatever errors were reported.
-/
namespace Xjs

/-- the tokens the parser can store beyond those of the given list: the end token of an empty list, Go's zero token
    (the closing brace of an empty object literal is not recorded), a repeated end of input -/
def Closed (P : Token → Prop) : Prop := P dummyTok ∧ P zeroTok ∧ ∀ t, P t → P (eofAgain t)

/-- every token still to be read satisfies `P` -/
def PS.ok (P : Token → Prop) (st : PS) : Prop := ∀ t ∈ st.toks, P t

mutual
  /-- every stored token satisfies `P` -/
  def Expr.allT (P : Token → Prop) : Expr → Prop
    | .none => True
    | .ident id => P id.tok
    | .int tok | .float tok | .null tok => P tok
    | .str tok _ | .raw tok _ | .bool tok _ => P tok
    | .letE tok name v => P tok ∧ P name.tok ∧ v.allT P
    | .binary tok l _ r => P tok ∧ l.allT P ∧ r.allT P
    | .unary tok _ r => P tok ∧ r.allT P
    | .postfix tok l _ => P tok ∧ l.allT P
    | .group tok e rp => P tok ∧ e.allT P ∧ P rp
    | .call tok f args => P tok ∧ f.allT P ∧ args.allT P
    | .member tok o p _ => P tok ∧ o.allT P ∧ p.allT P
    | .assign tok l v => P tok ∧ l.allT P ∧ v.allT P
    | .compound tok l _ v => P tok ∧ l.allT P ∧ v.allT P
    | .func tok name params body => P tok ∧ (∀ n, name = some n → P n.tok) ∧ (∀ i ∈ params, P i.tok) ∧ body.allT P
    | .array tok es rb => P tok ∧ es.allT P ∧ P rb
    | .object tok ps rb => P tok ∧ ps.allT P ∧ P rb
  def Stmt.allT (P : Token → Prop) : Stmt → Prop
    | .none => True
    | .letS tok name v => P tok ∧ P name.tok ∧ v.allT P
    | .ret tok v => P tok ∧ v.allT P
    | .exprS e => e.allT P
    | .funcD tok name params body => P tok ∧ P name.tok ∧ (∀ i ∈ params, P i.tok) ∧ body.allT P
    | .block tok ss rb => P tok ∧ ss.allT P ∧ P rb
    | .ifS tok c t e => P tok ∧ c.allT P ∧ t.allT P ∧ e.allT P
    | .whileS tok c b => P tok ∧ c.allT P ∧ b.allT P
    | .forS tok i c u b => P tok ∧ i.allT P ∧ c.allT P ∧ u.allT P ∧ b.allT P
  def ExprList.allT (P : Token → Prop) : ExprList → Prop
    | .nil => True
    | .cons e t => e.allT P ∧ t.allT P
  def StmtList.allT (P : Token → Prop) : StmtList → Prop
    | .nil => True
    | .cons s t => s.allT P ∧ t.allT P
  def PropList.allT (P : Token → Prop) : PropList → Prop
    | .nil => True
    | .cons k v t => k.allT P ∧ v.allT P ∧ t.allT P
end

theorem StmtList.allT_snoc (P : Token → Prop) : ∀ (l : StmtList) (s : Stmt), (l.snoc s).allT P ↔ (l.allT P ∧ s.allT P)
  | .nil, s => by simp [StmtList.snoc, StmtList.allT]
  | .cons x t, s => by simp [StmtList.snoc, StmtList.allT, StmtList.allT_snoc P t s, and_assoc]
theorem ExprList.allT_snoc (P : Token → Prop) : ∀ (l : ExprList) (e : Expr), (l.snoc e).allT P ↔ (l.allT P ∧ e.allT P)
  | .nil, e => by simp [ExprList.snoc, ExprList.allT]
  | .cons x t, e => by simp [ExprList.snoc, ExprList.allT, ExprList.allT_snoc P t e, and_assoc]
theorem PropList.allT_snoc (P : Token → Prop) : ∀ (l : PropList) (k v : Expr), (l.snoc k v).allT P ↔ (l.allT P ∧ k.allT P ∧ v.allT P)
  | .nil, k, v => by simp [PropList.snoc, PropList.allT]
  | .cons a b t, k, v => by simp [PropList.snoc, PropList.allT, PropList.allT_snoc P t k v, and_assoc]

section
variable {P : Token → Prop}

theorem P_cur (hc : Closed P) {st : PS} (h : st.ok P) : P st.cur := by
  unfold PS.cur; cases hs : st.toks with
  | nil => exact hc.1
  | cons a l => exact h a (by simp [hs])
theorem P_zero (hc : Closed P) : P zeroTok := hc.2.1
theorem P_peek (hc : Closed P) {st : PS} (h : st.ok P) : P st.peek := by
  unfold PS.peek
  match hs : st.toks with
  | [] => exact hc.1
  | [t] => exact hc.2.2 t (h t (by simp [hs]))
  | _ :: t :: _ => exact h t (by simp [hs])
theorem ok_next (hc : Closed P) {st : PS} (h : st.ok P) : st.next.ok P := by
  unfold PS.next PS.ok
  match hs : st.toks with
  | [] => intro t ht; simp at ht
  | [t] => intro u hu; simp at hu; subst hu; exact hc.2.2 t (h t (by simp [hs]))
  | a :: t :: ts => intro u hu; exact h u (by simp [hs]; simp at hu; exact Or.inr hu)
@[simp] theorem ok_push (st : PS) (c : Ctx) : (st.push c).ok P ↔ st.ok P := Iff.rfl
@[simp] theorem ok_pop (st : PS) : st.pop.ok P ↔ st.ok P := Iff.rfl
@[simp] theorem ok_addError (st : PS) (m : Bytes) : (st.addError m).ok P ↔ st.ok P := Iff.rfl
@[simp] theorem ok_addErrorAt (st : PS) (m : Bytes) (t : Token) : (st.addErrorAt m t).ok P ↔ st.ok P := Iff.rfl
@[simp] theorem ok_set (st : PS) (p : Nat) (t : List Event) : PS.ok P { st with curPrec := p, trace := t } ↔ st.ok P := Iff.rfl
@[simp] theorem ok_setPrec (st : PS) (p : Nat) : PS.ok P { st with curPrec := p } ↔ st.ok P := Iff.rfl
@[simp] theorem ok_setTrace (st : PS) (t : List Event) : PS.ok P { st with trace := t } ↔ st.ok P := Iff.rfl
theorem ok_expectToken (hc : Closed P) (ty : TokType) {st : PS} (h : st.ok P) : (expectToken ty st).2.ok P := by
  unfold expectToken; split
  · exact ok_next hc h
  · exact h
theorem ok_expectSemi (hc : Closed P) (cfg : PCfg) {st : PS} (h : st.ok P) : (expectSemiASI cfg st).2.ok P := by
  unfold expectSemiASI
  split
  · exact ok_next hc h
  · split
    · exact h
    · split <;> exact h

theorem identsAllT_append (a : List Ident) (i : Ident) : (∀ x ∈ a ++ [i], P x.tok) ↔ (∀ x ∈ a, P x.tok) ∧ P i.tok := by
  constructor
  · intro h; exact ⟨fun x hx => h x (by simp [hx]), h i (by simp)⟩
  · intro ⟨h1, h2⟩ x hx; simp at hx; rcases hx with hx | rfl; exact h1 x hx; exact h2

/-- every token stored in a result satisfies `P` -/
def Kind.AllT (P : Token → Prop) : (k : Kind) → k.type → Prop
  | .stmt, s => s.allT P
  | .expr, e => e.allT P
  | .exprs, l => l.allT P
  | .stmts, l => l.allT P
  | .props, o => ∀ p, o = some p → p.allT P
  | .idents, l => ∀ i ∈ l, P i.tok

/-- from a state whose tokens all satisfy `P`, and handed a tree whose tokens do, a call ends in such a state and
    returns such a tree -/
def Call.Prov (P : Token → Prop) : {k : Kind} → Call k → PS → k.type → PS → Prop
  | _, .remaining left _, st, x, st' | _, .infix left, st, x, st' => st.ok P → left.allT P → st'.ok P ∧ x.allT P
  | _, .exprListLoop acc, st, x, st' => st.ok P → acc.allT P → st'.ok P ∧ x.allT P
  | _, .objLoop acc, st, x, st' => st.ok P → acc.allT P → st'.ok P ∧ ∀ p, x = some p → p.allT P
  | _, .blockLoop acc, st, x, st' | _, .programLoop acc, st, x, st' => st.ok P → acc.allT P → st'.ok P ∧ x.allT P
  | _, .endStmt s, st, x, st' => st.ok P → s.allT P → st'.ok P ∧ x.allT P
  | _, .funcTail tok name, st, x, st' => st.ok P → (P tok ∧ ∀ n, name = some n → P n.tok) → st'.ok P ∧ x.allT P
  | _, .paramsLoop acc, st, x, st' => st.ok P → (∀ i ∈ acc, P i.tok) → st'.ok P ∧ ∀ i ∈ x, P i.tok
  | k, _, st, x, st' => st.ok P → st'.ok P ∧ k.AllT P x

theorem Parse.prov (hc : Closed P) {cfg : PCfg} {E : Prop} {k : Kind} {c : Call k} {st : PS} {x : k.type} {st' : PS}
    (h : Parse cfg E c st x st') : c.Prov P st x st' := by
  induction h
  case base ih => unfold stmtCall at ih; split at ih <;> exact ih
  case blockLoop_step ih1 ih2 | programLoop_step ih1 ih2 =>
    intro hok hacc
    refine ih2 (ok_next hc (ih1 hok).1) ?_
    split <;> simp_all [Call.Prov, Kind.AllT, StmtList.allT_snoc]
  case paramsLoop_step ih =>
    intro hok hacc
    have h2 := ok_next hc (ok_next hc hok)
    exact ih h2 ((identsAllT_append _ _).2 ⟨hacc, P_cur hc h2⟩)
  all_goals simp only [Call.Prov] at *
  all_goals intros
  -- depth 3: the initialiser of `let x = …` is parsed three primitive steps after `st`
  all_goals simp_all (maxDischargeDepth := 3) [Kind.AllT, Expr.allT, Stmt.allT, ExprList.allT, StmtList.allT,
    PropList.allT, ExprList.allT_snoc, PropList.allT_snoc, identOfCur, next_cur, ok_next, ok_expectToken, ok_expectSemi,
    P_cur, P_peek, P_zero]
end

theorem prov_mutual (cfg : PCfg) (P : Token → Prop) (hc : Closed P) :
    (∀ is st r, parseStatementI cfg is st = some r → st.ok P → (r.2.ok P ∧ r.1.allT P)) ∧
    (∀ st r, baseParseStatement cfg st = some r → st.ok P → (r.2.ok P ∧ r.1.allT P)) ∧
    (∀ st r, parseExpressionStatement cfg st = some r → st.ok P → (r.2.ok P ∧ r.1.allT P)) ∧
    (∀ is prec st r, parseExpressionI cfg is prec st = some r → st.ok P → (r.2.ok P ∧ r.1.allT P)) ∧
    (∀ left prec st r, parseRemaining cfg left prec st = some r → st.ok P → left.allT P → (r.2.ok P ∧ r.1.allT P)) ∧
    (∀ left st r, parseInfixExpression cfg left st = some r → st.ok P → left.allT P → (r.2.ok P ∧ r.1.allT P)) ∧
    (∀ endTy st r, parseExpressionList cfg endTy st = some r → st.ok P → (r.2.ok P ∧ r.1.allT P)) ∧
    (∀ acc st r, exprListLoop cfg acc st = some r → st.ok P → acc.allT P → (r.2.ok P ∧ r.1.allT P)) ∧
    (∀ st r, parsePrefixExpression cfg st = some r → st.ok P → (r.2.ok P ∧ r.1.allT P)) ∧
    (∀ st r, parseFunctionExpression cfg st = some r → st.ok P → (r.2.ok P ∧ r.1.allT P)) ∧
    (∀ st r, parseBlockStatement cfg st = some r → st.ok P → (r.2.ok P ∧ r.1.allT P)) ∧
    (∀ acc st r, blockLoop cfg acc st = some r → st.ok P → acc.allT P → (r.2.ok P ∧ r.1.allT P)) ∧
    (∀ st r, parseObjectLiteral cfg st = some r → st.ok P → (r.2.ok P ∧ r.1.allT P)) ∧
    (∀ acc st r, objectLoop cfg acc st = some r → st.ok P → acc.allT P → (r.2.ok P ∧ ∀ p, r.1 = some p → p.allT P)) ∧
    (∀ st r, parseForStatement cfg st = some r → st.ok P → (r.2.ok P ∧ r.1.allT P)) ∧
    (∀ st r, parseForInit cfg st = some r → st.ok P → (r.2.ok P ∧ r.1.allT P)) ∧
    (∀ st r, parseLetExpression cfg st = some r → st.ok P → (r.2.ok P ∧ r.1.allT P)) ∧
    (∀ st r, parseWhileStatement cfg st = some r → st.ok P → (r.2.ok P ∧ r.1.allT P)) ∧
    (∀ st r, parseIfStatement cfg st = some r → st.ok P → (r.2.ok P ∧ r.1.allT P)) ∧
    (∀ st r, parseReturnStatement cfg st = some r → st.ok P → (r.2.ok P ∧ r.1.allT P)) ∧
    (∀ st r, parseFunctionStatement cfg st = some r → st.ok P → (r.2.ok P ∧ r.1.allT P)) ∧
    (∀ st r, parseLetStatement cfg st = some r → st.ok P → (r.2.ok P ∧ r.1.allT P)) :=
  Parse.run_mutual (M := fun c st r => c.Prov P st r.1 r.2) fun _ _ _ h => (Parse.of_run h).prov hc

/-- PROVENANCE: every token stored in the tree of a parsed program satisfies what all input tokens satisfy -/
theorem prov_parseProgram (cfg : PCfg) (P : Token → Prop) (hc : Closed P) (toks : List Token) (r : ParseResult)
    (h : parseProgram cfg toks = some r) (ht : ∀ t ∈ toks, P t) : r.prog.allT P := by
  unfold parseProgram at h
  obtain ⟨⟨stmts, st⟩, h1, h2⟩ := bind_some h
  cases h2
  exact ((Parse.of_run (c := .programLoop .nil) h1).prov hc ht trivial).2

end Xjs
