import XjsModel.Proofs.PrinterCompact
import XjsModel.Spec.Erase
/-
  In compact mode the printers do not look at the trivia: the tree without it is written the same way.
-/
namespace Xjs

@[simp] theorem erase_isNone_expr (e : Expr) : e.erase.isNone = e.isNone := by cases e <;> rfl
@[simp] theorem erase_isNone_stmt (s : Stmt) : s.erase.isNone = s.isNone := by cases s <;> rfl
@[simp] theorem erase_prec (e : Expr) : e.erase.prec = e.prec := by cases e <;> rfl
@[simp] theorem erase_isDecrement (e : Expr) : e.erase.isDecrement = e.isDecrement := by cases e <;> rfl
@[simp] theorem erase_isDecimalInt (e : Expr) : e.erase.isDecimalInt = e.isDecimalInt := by
  cases e <;> simp [Expr.erase, Expr.isDecimalInt, Token.noComments]

theorem writeParams_erase (ps : List Ident) (first : Bool) (cw : CW) (h : cw.pretty = false) :
    writeParams (ps.map Ident.noComments) first cw = writeParams ps first cw := by
  induction ps generalizing cw first with
  | nil => rfl
  | cons p rest ih => simp [writeParams, writeIdent_compact, ih, h, Ident.noComments, Token.noComments]

-- In compact mode the head of a node and an identifier are written without a look at the trivia. Each of these
-- rewrites under the side condition that the writer it meets is compact, which `simp` settles from `pretty_…`.
attribute [local simp] leadingComments_compact head_compact writeIdent_compact writeParams_erase
  Token.noComments Ident.noComments

mutual
  theorem writeExpr_erase : ∀ (e : Expr) (cw : CW), cw.pretty = false → writeExpr e.erase cw = writeExpr e cw
    | .none, cw, h => rfl
    | .ident id, cw, h => by simp [Expr.erase, writeExpr, h]
    | .int tok, cw, h => by simp [Expr.erase, writeExpr, h]
    | .float tok, cw, h => by simp [Expr.erase, writeExpr, h]
    | .str tok v, cw, h => by simp [Expr.erase, writeExpr, h]
    | .raw tok v, cw, h => by simp [Expr.erase, writeExpr, h]
    | .bool tok b, cw, h => by simp [Expr.erase, writeExpr, h]
    | .null tok, cw, h => by simp [Expr.erase, writeExpr, h]
    | .letE tok name v, cw, h => by simp [Expr.erase, writeExpr, h, writeExpr_erase v]
    | .binary tok l op r, cw, h => by
      simp [Expr.erase, writeExpr, h, writeExpr_erase l, writeExpr_erase r]
    | .unary tok op r, cw, h => by
      simp [Expr.erase, writeExpr, h, apply_ite CW.pretty, writeExpr_erase r]
    | .postfix tok l op, cw, h => by simp [Expr.erase, writeExpr, h, writeExpr_erase l]
    | .group tok e rp, cw, h => by simp [Expr.erase, writeExpr, h, writeExpr_erase e]
    | .call tok fn args, cw, h => by simp [Expr.erase, writeExpr, h, writeExpr_erase fn, writeExprList_erase args]
    | .member tok obj prop c, cw, h => by
      simp [Expr.erase, writeExpr, h, apply_ite CW.pretty, writeExpr_erase obj, writeExpr_erase prop]
    | .assign tok l v, cw, h => by simp [Expr.erase, writeExpr, h, writeExpr_erase l, writeExpr_erase v]
    | .compound tok l op v, cw, h => by simp [Expr.erase, writeExpr, h, writeExpr_erase l, writeExpr_erase v]
    | .func tok name params body, cw, h => by cases name <;> simp [Expr.erase, writeExpr, h, writeStmt_erase body]
    | .array tok elems rb, cw, h => by simp [Expr.erase, writeExpr, h, writeExprList_erase elems]
    | .object tok props rb, cw, h => by simp [Expr.erase, writeExpr, h, writeProps_erase props]
  theorem writeExprList_erase : ∀ (es : ExprList) (first : Bool) (cw : CW), cw.pretty = false →
      writeExprList es.erase first cw = writeExprList es first cw
    | .nil, _, cw, h => rfl
    | .cons e rest, first, cw, h => by
      simp [ExprList.erase, writeExprList, h, writeExpr_erase e, writeExprList_erase rest]
  theorem writeProps_erase : ∀ (ps : PropList) (first : Bool) (cw : CW), cw.pretty = false →
      writeProps ps.erase first cw = writeProps ps first cw
    | .nil, _, cw, h => rfl
    | .cons k v rest, first, cw, h => by
      simp [PropList.erase, writeProps, h, writeExpr_erase k, writeExpr_erase v, writeProps_erase rest]
  theorem writeStmt_erase : ∀ (s : Stmt) (cw : CW), cw.pretty = false → writeStmt s.erase cw = writeStmt s cw
    | .none, cw, h => rfl
    | .letS tok name v, cw, h => by simp [Stmt.erase, writeStmt, h, writeExpr_erase v]
    | .ret tok v, cw, h => by simp [Stmt.erase, writeStmt, h, writeExpr_erase v]
    | .exprS e, cw, h => by simp [Stmt.erase, writeStmt, h, writeExpr_erase e]
    | .funcD tok name params body, cw, h => by simp [Stmt.erase, writeStmt, h, writeStmt_erase body]
    | .block tok stmts rb, cw, h => by simp [Stmt.erase, writeStmt, h, writeBlockStmts_erase stmts]
    | .ifS tok c a b, cw, h => by
      simp [Stmt.erase, writeStmt, h, writeExpr_erase c, writeStmt_erase a, writeStmt_erase b]
    | .whileS tok c b, cw, h => by simp [Stmt.erase, writeStmt, h, writeExpr_erase c, writeStmt_erase b]
    | .forS tok i c u b, cw, h => by
      simp [Stmt.erase, writeStmt, h, apply_ite CW.pretty, writeExpr_erase i, writeExpr_erase c, writeExpr_erase u,
        writeStmt_erase b]
  theorem writeBlockStmts_erase : ∀ (ss : StmtList) (first : Bool) (cw : CW), cw.pretty = false →
      writeBlockStmts ss.erase first cw = writeBlockStmts ss first cw
    | .nil, _, cw, h => rfl
    | .cons s rest, first, cw, h => by
      simp [StmtList.erase, writeBlockStmts, h, writeStmt_erase s, writeBlockStmts_erase rest]
  theorem writeProgramStmts_erase : ∀ (ss : StmtList) (first : Bool) (cw : CW), cw.pretty = false →
      writeProgramStmts ss.erase first cw = writeProgramStmts ss first cw
    | .nil, _, cw, h => rfl
    | .cons s rest, first, cw, h => by
      simp [StmtList.erase, writeProgramStmts, h, writeStmt_erase s, writeProgramStmts_erase rest]
end

end Xjs
