import XjsModel.Proofs.ParserFrame
import XjsModel.Proofs.Lookup
/-
  Totality of the parser: the measure and the per-step facts.

  The parser functions are defined with `partial_fixpoint`: "the function returns" is `(f x).isSome`.
  Measure: the number of tokens from the cursor on. `NextToken` shortens the list unless the cursor already stands
  on the last token; the lexer ends every token list with EOF (`EofEnd`), and every loop of the parser continues
  only on a token that is not EOF, so every loop iteration and every recursive descent strictly shortens the list.
-/
namespace Xjs.Total
open Xjs

/-- the token list ends with an EOF token (what the lexer delivers) -/
def EofEnd (st : PS) : Prop := ∃ pre e, st.toks = pre ++ [e] ∧ e.type = .eof

theorem EofEnd.len_pos {st : PS} (h : EofEnd st) : 1 ≤ st.toks.length := by
  obtain ⟨pre, e, ht, _⟩ := h; rw [ht]; simp

theorem EofEnd.of_toks {st st' : PS} (h : EofEnd st) (e : st'.toks = st.toks) : EofEnd st' := by
  obtain ⟨pre, x, ht, hx⟩ := h; exact ⟨pre, x, e.trans ht, hx⟩

theorem EofEnd.next {st : PS} (h : EofEnd st) : EofEnd st.next := by
  obtain ⟨pre, e, ht, he⟩ := h
  unfold PS.next
  cases pre with
  | nil =>
    simp only [List.nil_append] at ht
    rw [ht]; exact ⟨[], eofAgain e, rfl, he⟩
  | cons a pre' =>
    cases pre' with
    | nil => simp only [List.cons_append, List.nil_append] at ht; rw [ht]; exact ⟨[], e, rfl, he⟩
    | cons b pre'' =>
      simp only [List.cons_append] at ht; rw [ht]
      exact ⟨b :: pre'', e, by simp, he⟩

theorem EofEnd.cur {st : PS} (h : EofEnd st) (hc : st.cur.type ≠ .eof) : 2 ≤ st.toks.length := by
  obtain ⟨pre, e, ht, he⟩ := h
  cases pre with
  | nil => simp only [List.nil_append] at ht; exact absurd (by unfold PS.cur; rw [ht]; exact he) hc
  | cons a pre' => rw [ht]; simp

theorem EofEnd.peek {st : PS} (h : EofEnd st) (hc : st.peek.type ≠ .eof) : 2 ≤ st.toks.length := by
  obtain ⟨pre, e, ht, he⟩ := h
  cases pre with
  | nil => simp only [List.nil_append] at ht; exact absurd (by unfold PS.peek; rw [ht]; exact he) hc
  | cons a pre' => rw [ht]; simp

theorem _root_.Xjs.Steps.eofEnd {s s' : PS} (h : Steps s s') : EofEnd s → EofEnd s' := by
  induction h with
  | refl => exact id
  | next _ ih => exact fun h => (ih h).next
  | addErr _ _ _ _ ih => exact fun h => (ih h).of_toks rfl
  | trace _ _ _ ih => exact fun h => (ih h).of_toks rfl
  | ctxBracket c _ _ ih1 ih2 => exact fun h => (ih2 ((ih1 h).of_toks rfl)).of_toks rfl
  | precBracket _ _ _ _ ih1 ih2 => exact fun h => (ih2 ((ih1 h).of_toks rfl)).of_toks rfl

/-- size bound: at most `k` tokens left, EOF-terminated -/
def M (k : Nat) (st : PS) : Prop := EofEnd st ∧ st.toks.length ≤ k

theorem M.mono {k k' : Nat} {st : PS} (h : M k st) (hk : k ≤ k') : M k' st := ⟨h.1, Nat.le_trans h.2 hk⟩

/-- after a successful `ExpectToken` (for a type other than EOF) the list is shorter -/
theorem expect_facts {ty : TokType} {st : PS} {ok : Bool} {st' : PS} (h : expectToken ty st = (ok, st'))
    (hty : ty ≠ .eof) (hE : EofEnd st) :
    EofEnd st' ∧ st'.toks.length ≤ st.toks.length ∧ (ok = true → st'.toks.length < st.toks.length ∧ st'.cur.type = ty) := by
  unfold expectToken at h
  split at h
  next hp =>
    cases h
    have hp' : st.peek.type = ty := by simpa using hp
    have h2 := hE.peek (by rw [hp']; exact hty)
    have := next_len st
    refine ⟨hE.next, this.1, fun _ => ⟨by omega, ?_⟩⟩
    rw [← hp']
    unfold PS.next PS.cur PS.peek
    split <;> simp_all
  next => cases h; exact ⟨hE.of_toks rfl, Nat.le_refl _, fun h => by cases h⟩

theorem semi_facts {cfg : PCfg} {st : PS} {ok : Bool} {st' : PS} (h : expectSemiASI cfg st = (ok, st')) (hE : EofEnd st) :
    EofEnd st' ∧ st'.toks.length ≤ st.toks.length := by
  have hs : Steps st st' := steps_expectSemi' h (.refl _)
  exact ⟨hs.eofEnd hE, hs.toks_length⟩

/-- sequencing: a sub-call that returns, followed by a continuation that returns on every smaller-or-equal state -/
theorem bind_ok {α β : Type} {f : Option (α × PS)} {s : PS} {k : α × PS → Option β}
    (hS : ∀ r, f = some r → Steps s r.2) (hE : EofEnd s) (h1 : f.isSome = true)
    (h2 : ∀ a s', EofEnd s' → s'.toks.length ≤ s.toks.length → (k (a, s')).isSome = true) : (f >>= k).isSome = true := by
  cases hf : f with
  | none => rw [hf] at h1; cases h1
  | some r =>
    obtain ⟨a, s'⟩ := r
    have := hS _ hf
    simp only [Option.bind_eq_bind, Option.bind_some]
    exact h2 a s' (this.eofEnd hE) this.toks_length

@[simp] theorem push_toks (s : PS) (c : Ctx) : (s.push c).toks = s.toks := rfl
@[simp] theorem pop_toks (s : PS) : s.pop.toks = s.toks := rfl
@[simp] theorem addError_toks (s : PS) (m : Bytes) : (s.addError m).toks = s.toks := rfl
@[simp] theorem addErrorAt_toks (s : PS) (m : Bytes) (t : Token) : (s.addErrorAt m t).toks = s.toks := rfl
@[simp] theorem push_cur (s : PS) (c : Ctx) : (s.push c).cur = s.cur := rfl
theorem EofEnd.push {s : PS} (h : EofEnd s) (c : Ctx) : EofEnd (s.push c) := h.of_toks rfl
theorem EofEnd.pop {s : PS} (h : EofEnd s) : EofEnd s.pop := h.of_toks rfl
theorem EofEnd.addError {s : PS} (h : EofEnd s) (m : Bytes) : EofEnd (s.addError m) := h.of_toks rfl

/-- what termination needs from the operator tables -/
structure TablesOk (cfg : PCfg) : Prop where
  /-- a token that can continue an expression has an infix parse function -/
  infix_of_prec : ∀ ty, 1 < precOf cfg ty → (lookup cfg.infixFns ty).isSome = true
  /-- binding powers start at LOWEST -/
  prec_pos : ∀ ty, 1 ≤ precOf cfg ty
  eof_no_infix : lookup cfg.infixFns .eof = none
  eof_no_prefix : lookup cfg.prefixFns .eof = none

theorem tablesOk_base (tolerant smart : Bool) (si : List SI) (ei : List EI) :
    TablesOk { tolerant := tolerant, smart := smart, stmtI := si, exprI := ei } := by
  refine ⟨fun ty h => ?_, fun ty => ?_, by show lookup baseInfixFns .eof = none; decide, by show lookup basePrefixFns .eof = none; decide⟩
  · rcases precOf_mem _ ty with e | m
    · rw [e] at h; cases Nat.lt_irrefl _ h
    · exact (basePrecedences_rows _ m).2.2
  · rcases precOf_mem _ ty with e | m
    · rw [e]; decide
    · exact Nat.le_of_lt (basePrecedences_rows _ m).1

end Xjs.Total
