import XjsModel.Proofs.Writer
/-
  The `PrettyPrint` flag is never changed by the writer; in compact mode leading comments are not written.
-/
namespace Xjs

@[simp] theorem pretty_mapAdvance (cw : CW) (f : Mapper → Mapper) : (cw.mapAdvance f).pretty = cw.pretty := by
  rw [mapAdvance_eq]
@[simp] theorem pretty_panic (cw : CW) : cw.panic.pretty = cw.pretty := rfl
@[simp] theorem pretty_rawIndent (cw : CW) : cw.rawIndent.pretty = cw.pretty := rfl
@[simp] theorem pretty_flushPending (cw : CW) : cw.flushPending.pretty = cw.pretty := by
  rw [flushPending_eq]
@[simp] theorem pretty_writeString (cw : CW) (s : Bytes) : (cw.writeString s).pretty = cw.pretty := by
  rw [writeString_eq]
@[simp] theorem pretty_writeRune (cw : CW) (r : Nat) : (cw.writeRune r).pretty = cw.pretty := by
  rw [writeRune_eq]
@[simp] theorem pretty_writeSemi (cw : CW) : cw.writeSemi.pretty = cw.pretty := by
  unfold CW.writeSemi; repeat' split
  all_goals simp
@[simp] theorem pretty_separateSigns (cw : CW) (op : Bytes) : (cw.separateSigns op).pretty = cw.pretty := by
  unfold CW.separateSigns
  cases op with
  | nil => rfl
  | cons c r => simp only; repeat' split
                all_goals simp
@[simp] theorem pretty_increaseIndent (cw : CW) : cw.increaseIndent.pretty = cw.pretty := by
  unfold CW.increaseIndent; split <;> rfl
@[simp] theorem pretty_decreaseIndent (cw : CW) : cw.decreaseIndent.pretty = cw.pretty := by
  unfold CW.decreaseIndent; split <;> rfl
@[simp] theorem pretty_writeIndent (cw : CW) : cw.writeIndent.pretty = cw.pretty := by
  unfold CW.writeIndent; repeat' split
  all_goals rfl
@[simp] theorem pretty_writeNewline (cw : CW) : cw.writeNewline.pretty = cw.pretty := by
  unfold CW.writeNewline; split <;> rfl
@[simp] theorem pretty_writeSpace (cw : CW) : cw.writeSpace.pretty = cw.pretty := by
  unfold CW.writeSpace; repeat' split
  all_goals rfl
@[simp] theorem pretty_leadingComments (cw : CW) (cs : List Bytes) : (cw.leadingComments cs).pretty = cw.pretty := by
  rw [leadingComments_eq]; split <;> rfl
@[simp] theorem pretty_addMapping (cw : CW) (a b : Nat) : (cw.addMapping a b).pretty = cw.pretty := by simp [CW.addMapping]
@[simp] theorem pretty_addNamedMapping (cw : CW) (a b : Nat) (n : Bytes) : (cw.addNamedMapping a b n).pretty = cw.pretty := by
  simp [CW.addNamedMapping]
@[simp] theorem pretty_head (cw : CW) (t : Token) : (cw.head t).pretty = cw.pretty := by simp [CW.head]
@[simp] theorem pretty_openIf (cw : CW) (b : Bool) : (cw.openIf b).pretty = cw.pretty := by unfold CW.openIf; split <;> simp
@[simp] theorem pretty_closeIf (cw : CW) (b : Bool) : (cw.closeIf b).pretty = cw.pretty := by unfold CW.closeIf; split <;> simp
@[simp] theorem pretty_sepIf (cw : CW) (b : Bool) : (cw.sepIf b).pretty = cw.pretty := by unfold CW.sepIf; split <;> simp
@[simp] theorem pretty_newlineIf (cw : CW) (b : Bool) : (cw.newlineIf b).pretty = cw.pretty := by unfold CW.newlineIf; split <;> simp
@[simp] theorem pretty_writeIdent (id : Ident) (cw : CW) : (writeIdent id cw).pretty = cw.pretty := by simp [writeIdent]
@[simp] theorem pretty_writeParams (ps : List Ident) (first : Bool) (cw : CW) : (writeParams ps first cw).pretty = cw.pretty := by
  induction ps generalizing cw first with
  | nil => rfl
  | cons p rest ih => simp [writeParams, ih]

@[simp] theorem pretty_ite {c : Prop} [Decidable c] (a b : CW) : (if c then a else b).pretty = if c then a.pretty else b.pretty := by
  split <;> rfl

mutual
  theorem pretty_writeExpr : ∀ (e : Expr) (cw : CW), (writeExpr e cw).pretty = cw.pretty
    | .none, cw => by simp [writeExpr]
    | .ident id, cw => by simp [writeExpr]
    | .int tok, cw => by simp [writeExpr]
    | .float tok, cw => by simp [writeExpr]
    | .str tok v, cw => by simp [writeExpr]
    | .raw tok v, cw => by simp [writeExpr]
    | .bool tok b, cw => by simp [writeExpr]
    | .null tok, cw => by simp [writeExpr]
    | .letE tok name v, cw => by simp [writeExpr, pretty_writeExpr v]
    | .binary tok l op r, cw => by simp [writeExpr, pretty_writeExpr l, pretty_writeExpr r]
    | .unary tok op r, cw => by simp [writeExpr, pretty_writeExpr r]
    | .postfix tok l op, cw => by simp [writeExpr, pretty_writeExpr l]
    | .group tok e rp, cw => by simp [writeExpr, pretty_writeExpr e]
    | .call tok fn args, cw => by simp [writeExpr, pretty_writeExpr fn, pretty_writeExprList args]
    | .member tok obj prop c, cw => by simp [writeExpr, pretty_writeExpr obj, pretty_writeExpr prop]
    | .assign tok l v, cw => by simp [writeExpr, pretty_writeExpr l, pretty_writeExpr v]
    | .compound tok l op v, cw => by simp [writeExpr, pretty_writeExpr l, pretty_writeExpr v]
    | .func tok name params body, cw => by cases name <;> simp [writeExpr, pretty_writeStmt body]
    | .array tok elems rb, cw => by simp [writeExpr, pretty_writeExprList elems]
    | .object tok props rb, cw => by simp [writeExpr, pretty_writeProps props]
  theorem pretty_writeExprList : ∀ (es : ExprList) (first : Bool) (cw : CW), (writeExprList es first cw).pretty = cw.pretty
    | .nil, _, cw => by simp [writeExprList]
    | .cons e rest, first, cw => by simp [writeExprList, pretty_writeExpr e, pretty_writeExprList rest]
  theorem pretty_writeProps : ∀ (ps : PropList) (first : Bool) (cw : CW), (writeProps ps first cw).pretty = cw.pretty
    | .nil, _, cw => by simp [writeProps]
    | .cons k v rest, first, cw => by simp [writeProps, pretty_writeExpr k, pretty_writeExpr v, pretty_writeProps rest]
  theorem pretty_writeStmt : ∀ (s : Stmt) (cw : CW), (writeStmt s cw).pretty = cw.pretty
    | .none, cw => by simp [writeStmt]
    | .letS tok name v, cw => by simp [writeStmt, pretty_writeExpr v]
    | .ret tok v, cw => by simp [writeStmt, pretty_writeExpr v]
    | .exprS e, cw => by simp [writeStmt, pretty_writeExpr e]
    | .funcD tok name params body, cw => by simp [writeStmt, pretty_writeStmt body]
    | .block tok stmts rb, cw => by simp [writeStmt, pretty_writeBlockStmts stmts]
    | .ifS tok c a b, cw => by simp [writeStmt, pretty_writeExpr c, pretty_writeStmt a, pretty_writeStmt b]
    | .whileS tok c b, cw => by simp [writeStmt, pretty_writeExpr c, pretty_writeStmt b]
    | .forS tok i c u b, cw => by
      simp [writeStmt, pretty_writeExpr i, pretty_writeExpr c, pretty_writeExpr u, pretty_writeStmt b]
  theorem pretty_writeBlockStmts : ∀ (ss : StmtList) (first : Bool) (cw : CW), (writeBlockStmts ss first cw).pretty = cw.pretty
    | .nil, _, cw => by simp [writeBlockStmts]
    | .cons s rest, first, cw => by simp [writeBlockStmts, pretty_writeStmt s, pretty_writeBlockStmts rest]
  theorem pretty_writeProgramStmts : ∀ (ss : StmtList) (first : Bool) (cw : CW), (writeProgramStmts ss first cw).pretty = cw.pretty
    | .nil, _, cw => by simp [writeProgramStmts]
    | .cons s rest, first, cw => by simp [writeProgramStmts, pretty_writeStmt s, pretty_writeProgramStmts rest]
end

attribute [simp] pretty_writeExpr pretty_writeExprList pretty_writeProps pretty_writeStmt pretty_writeBlockStmts
  pretty_writeProgramStmts

/-! ## compact mode ignores trivia -/

theorem writeSpace_compact {cw : CW} (h : cw.pretty = false) : cw.writeSpace = cw := by simp [CW.writeSpace, h]
theorem writeNewline_compact {cw : CW} (h : cw.pretty = false) : cw.writeNewline = cw := by simp [CW.writeNewline, h]
theorem writeIndent_compact {cw : CW} (h : cw.pretty = false) : cw.writeIndent = cw := by simp [CW.writeIndent, h]
theorem increaseIndent_compact {cw : CW} (h : cw.pretty = false) : cw.increaseIndent = cw := by simp [CW.increaseIndent, h]
theorem decreaseIndent_compact {cw : CW} (h : cw.pretty = false) : cw.decreaseIndent = cw := by simp [CW.decreaseIndent, h]
theorem leadingComments_compact (cw : CW) (cs : List Bytes) (h : cw.pretty = false) : cw.leadingComments cs = cw := by
  unfold CW.leadingComments; simp [h]

theorem head_compact (cw : CW) (t : Token) (h : cw.pretty = false) : cw.head t = cw.addMapping t.sl t.sc := by
  unfold CW.head; rw [leadingComments_compact _ _ h]

theorem writeIdent_compact (id : Ident) (cw : CW) (h : cw.pretty = false) :
    writeIdent id cw = (cw.addNamedMapping id.tok.sl id.tok.sc id.value).writeString id.value := by
  unfold writeIdent; rw [leadingComments_compact _ _ h]

end Xjs
