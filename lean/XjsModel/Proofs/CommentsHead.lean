import XjsModel.Spec.Comments
/-
  The entries replayed for a node start with those of its first token (C15: a comment in front of a statement is
  written in front of that statement's code).
-/
namespace Xjs

theorem Expr.cmts_head : ∀ (e : Expr), e.postfixBare = true → ∃ rest, e.cmts = headCmts e.firstTok ++ rest
  | .none, _ => ⟨[], by simp [Expr.cmts, Expr.firstTok, headCmts]⟩
  | .ident id, _ => ⟨[], by simp [Expr.cmts, Expr.firstTok, headCmts, identCmts]⟩
  | .int tok, _ | .float tok, _ | .null tok, _ => ⟨[], by simp [Expr.cmts, Expr.firstTok, headCmts]⟩
  | .str tok _, _ | .raw tok _, _ | .bool tok _, _ => ⟨[], by simp [Expr.cmts, Expr.firstTok, headCmts]⟩
  | .letE tok n v, _ => ⟨identCmts n ++ v.cmts, by simp [Expr.cmts, Expr.firstTok, headCmts]⟩
  | .unary tok _ r, _ => ⟨r.cmts, by simp [Expr.cmts, Expr.firstTok, headCmts]⟩
  | .group tok e rp, _ => ⟨e.cmts ++ rp.comments, by simp [Expr.cmts, Expr.firstTok, headCmts]⟩
  | .func tok name ps b, _ => ⟨_, by simp only [Expr.cmts, Expr.firstTok, headCmts, Option.map_some, Option.getD_some, List.append_assoc]; rfl⟩
  | .array tok es rb, _ => ⟨es.cmts ++ rb.comments, by simp [Expr.cmts, Expr.firstTok, headCmts]⟩
  | .object tok ps rb, _ => ⟨ps.cmts ++ rb.comments, by simp [Expr.cmts, Expr.firstTok, headCmts]⟩
  | .binary _ l _ _, h | .call _ l _, h | .member _ l _ _, h | .assign _ l _, h | .compound _ l _ _, h => by
    obtain ⟨rest, hr⟩ := Expr.cmts_head l (by simpa [Expr.postfixBare] using h)
    exact ⟨_, by simp only [Expr.cmts, Expr.firstTok, hr, List.append_assoc]; rfl⟩
  | .postfix tok l _, h => by
    simp only [Expr.postfixBare, Bool.and_eq_true, List.isEmpty_iff] at h
    obtain ⟨rest, hr⟩ := Expr.cmts_head l h.2
    exact ⟨rest, by simp [Expr.cmts, Expr.firstTok, hr, h.1]⟩

theorem Stmt.cmts_head (s : Stmt) (h : s.postfixBare = true) : ∃ rest, s.cmts = headCmts s.firstTok ++ rest := by
  cases s with
  | exprS e => simpa [Stmt.cmts, Stmt.firstTok] using Expr.cmts_head e (by simpa [Stmt.postfixBare] using h)
  | none => exact ⟨[], by simp [Stmt.cmts, Stmt.firstTok, headCmts]⟩
  | _ => exact ⟨_, by simp only [Stmt.cmts, Stmt.firstTok, headCmts, Option.map_some, Option.getD_some, List.append_assoc]; rfl⟩

end Xjs
