import XjsModel.Proofs.ParserFrame
/-
  Smart-semicolon mode vs default mode (C13 c): on a token stream without a `(` or `[` that starts a line,
  the smart-semicolon cut never fires, so both modes run identically.
-/
namespace Xjs

def PCfg.smartOff (cfg : PCfg) : PCfg := { cfg with smart := false }
def PCfg.smartOn (cfg : PCfg) : PCfg := { cfg with smart := true }

@[simp] theorem smartOff_stmtI (cfg : PCfg) : cfg.smartOff.stmtI = cfg.stmtI := rfl
@[simp] theorem smartOff_exprI (cfg : PCfg) : cfg.smartOff.exprI = cfg.exprI := rfl
@[simp] theorem smartOff_tolerant (cfg : PCfg) : cfg.smartOff.tolerant = cfg.tolerant := rfl
@[simp] theorem smartOff_smart (cfg : PCfg) : cfg.smartOff.smart = false := rfl
@[simp] theorem smartOff_prefixFns (cfg : PCfg) : cfg.smartOff.prefixFns = cfg.prefixFns := rfl
@[simp] theorem smartOff_infixFns (cfg : PCfg) : cfg.smartOff.infixFns = cfg.infixFns := rfl
@[simp] theorem smartOn_stmtI (cfg : PCfg) : cfg.smartOn.stmtI = cfg.stmtI := rfl
@[simp] theorem smartOn_exprI (cfg : PCfg) : cfg.smartOn.exprI = cfg.exprI := rfl
@[simp] theorem smartOn_tolerant (cfg : PCfg) : cfg.smartOn.tolerant = cfg.tolerant := rfl
@[simp] theorem smartOn_smart (cfg : PCfg) : cfg.smartOn.smart = true := rfl
@[simp] theorem smartOn_prefixFns (cfg : PCfg) : cfg.smartOn.prefixFns = cfg.prefixFns := rfl
@[simp] theorem smartOn_infixFns (cfg : PCfg) : cfg.smartOn.infixFns = cfg.infixFns := rfl
@[simp] theorem smartOn_curPrecedence (cfg : PCfg) (st : PS) : curPrecedence cfg.smartOn st = curPrecedence cfg.smartOff st := rfl
theorem smartOn_lt_peekPrec (cfg : PCfg) (st : PS) (prec : Nat) :
    decide (prec < peekPrecedence cfg.smartOn st) = decide (prec < peekPrecedence cfg.smartOff st) := rfl
@[simp] theorem smartOn_expectSemi (cfg : PCfg) (st : PS) : expectSemiASI cfg.smartOn st = expectSemiASI cfg.smartOff st := rfl

/-- a token that would trigger the smart-semicolon cut: `(` or `[` as the first token of a line -/
def Token.lineInitialOpen (t : Token) : Bool := t.nl && (t.type == .lparen || t.type == .lbracket)

/-- no token still to be read starts a line with `(` or `[` -/
def PS.noLI (st : PS) : Prop := ∀ t ∈ st.toks, t.lineInitialOpen = false

theorem noLI_next {st : PS} (h : st.noLI) : st.next.noLI := by
  unfold PS.next
  split
  · rename_i a b c heq
    intro t ht
    exact h t (by rw [heq]; exact List.mem_cons_of_mem _ ht)
  · rename_i a heq
    intro t ht
    simp only [List.mem_singleton] at ht
    subst ht
    simp [Token.lineInitialOpen, eofAgain]
  · exact h

@[simp] theorem noLI_push (st : PS) (c : Ctx) : (st.push c).noLI = st.noLI := rfl
@[simp] theorem noLI_pop (st : PS) : st.pop.noLI = st.noLI := rfl
@[simp] theorem noLI_addError (st : PS) (m : Bytes) : (st.addError m).noLI = st.noLI := rfl
@[simp] theorem noLI_addErrorAt (st : PS) (m : Bytes) (t : Token) : (st.addErrorAt m t).noLI = st.noLI := rfl
@[simp] theorem noLI_set (st : PS) (p : Nat) (t : List Event) : PS.noLI { st with curPrec := p, trace := t } = st.noLI := rfl
@[simp] theorem noLI_setPrec (st : PS) (p : Nat) : PS.noLI { st with curPrec := p } = st.noLI := rfl
@[simp] theorem noLI_setTrace (st : PS) (t : List Event) : PS.noLI { st with trace := t } = st.noLI := rfl

theorem Steps.noLI {s s' : PS} (h : Steps s s') (h0 : s.noLI) : s'.noLI := by
  induction h with
  | refl => exact h0
  | next _ ih => exact noLI_next (ih h0)
  | addErr _ _ _ _ ih => exact ih h0
  | trace _ _ _ ih => exact ih h0
  | ctxBracket c _ _ ih1 ih2 => exact ih2 (ih1 h0)
  | precBracket _ _ _ _ ih1 ih2 => exact ih2 (ih1 h0)

theorem noLI_expectToken {st : PS} (ty : TokType) (h : st.noLI) : (expectToken ty st).2.noLI :=
  (steps_expectToken ty (.refl st)).noLI h
theorem noLI_expectSemi {st : PS} (cfg : PCfg) (h : st.noLI) : (expectSemiASI cfg st).2.noLI :=
  (steps_expectSemi cfg (.refl st)).noLI h

theorem noLI_peek {st : PS} (h : st.noLI) : st.peek.lineInitialOpen = false := by
  unfold PS.peek
  split
  · rename_i a b c heq; exact h b (by rw [heq]; simp)
  · simp [Token.lineInitialOpen, eofAgain]
  · simp [Token.lineInitialOpen, dummyTok]

/-- under `noLI` the smart-semicolon cut of `ParseRemainingExpression` never fires -/
theorem smart_cut_never {st : PS} (h : st.noLI) (b : Bool) :
    (b && st.peek.nl && (st.peek.type == .lparen || st.peek.type == .lbracket)) = false := by
  have := noLI_peek h
  unfold Token.lineInitialOpen at this
  cases b <;> simp_all

theorem Parse.noLI {cfg : PCfg} {E : Prop} {k : Kind} {c : Call k} {st : PS} {x : k.type} {st' : PS}
    (h : Parse cfg E c st x st') (h0 : st.noLI) : st'.noLI := (h.steps st (.refl st)).noLI h0

/-- the mode is read in one place, the operator loop: under `noLI` it goes round in smart mode exactly when it does in
    the default mode -/
theorem smart_continues {st : PS} (h : st.noLI) (cfg : PCfg) (prec : Nat) :
    continues cfg.smartOn prec st = continues cfg.smartOff prec st := by
  simp only [continues, smartOn_smart, smartOff_smart, smart_cut_never h, Bool.false_and]
  rfl

end Xjs
