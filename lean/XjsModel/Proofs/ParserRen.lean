import XjsModel.Proofs.ParserTokMap
/-
  Renaming operator tokens (C05): the parser looks at an operator token's type only through its tables. If `f` maps
  every token type to one with the same table entries (binding power, prefix role, infix role) and moves only
  operator-like types, then parsing commutes with `f`.
-/
namespace Xjs.Ren
open Xjs

structure Renaming (cfg : PCfg) where
  f : TokType → TokType
  moves : ∀ t, f t ≠ t → movable t = true ∧ movable (f t) = true
  precs : ∀ t, lookup cfg.precs (f t) = lookup cfg.precs t
  prefixFns : ∀ t, lookup cfg.prefixFns (f t) = lookup cfg.prefixFns t
  infixFns : ∀ t, lookup cfg.infixFns (f t) = lookup cfg.infixFns t

variable {cfg : PCfg} (ρ : Renaming cfg)

theorem Renaming.eq_const_iff (c : TokType) (hc : movable c = false) (t : TokType) : ρ.f t = c ↔ t = c := by
  by_cases h : ρ.f t = t
  · rw [h]
  · have hm := ρ.moves t h
    constructor <;> (intro e; rw [e, hc] at hm; simp at hm)

def tokR (t : Token) : Token := { t with type := ρ.f t.type }

@[simp] theorem tokR_type (t : Token) : (tokR ρ t).type = ρ.f t.type := rfl
@[simp] theorem tokR_lit (t : Token) : (tokR ρ t).lit = t.lit := rfl
@[simp] theorem tokR_nl (t : Token) : (tokR ρ t).nl = t.nl := rfl

def identR (i : Ident) : Ident := { i with tok := tokR ρ i.tok }

mutual
  def exprR : Expr → Expr
    | .none => .none
    | .ident id => .ident (identR ρ id)
    | .int t => .int (tokR ρ t)
    | .float t => .float (tokR ρ t)
    | .str t v => .str (tokR ρ t) v
    | .raw t v => .raw (tokR ρ t) v
    | .bool t v => .bool (tokR ρ t) v
    | .null t => .null (tokR ρ t)
    | .letE t n v => .letE (tokR ρ t) (identR ρ n) (exprR v)
    | .binary t l op r => .binary (tokR ρ t) (exprR l) op (exprR r)
    | .unary t op r => .unary (tokR ρ t) op (exprR r)
    | .postfix t l op => .postfix (tokR ρ t) (exprR l) op
    | .group t e rp => .group (tokR ρ t) (exprR e) (tokR ρ rp)
    | .call t f args => .call (tokR ρ t) (exprR f) (exprListR args)
    | .member t o p c => .member (tokR ρ t) (exprR o) (exprR p) c
    | .assign t l v => .assign (tokR ρ t) (exprR l) (exprR v)
    | .compound t l op v => .compound (tokR ρ t) (exprR l) op (exprR v)
    | .func t name ps body => .func (tokR ρ t) (name.map (identR ρ)) (ps.map (identR ρ)) (stmtR body)
    | .array t es rb => .array (tokR ρ t) (exprListR es) (tokR ρ rb)
    | .object t ps rb => .object (tokR ρ t) (propListR ps) (tokR ρ rb)
  def stmtR : Stmt → Stmt
    | .none => .none
    | .letS t n v => .letS (tokR ρ t) (identR ρ n) (exprR v)
    | .ret t v => .ret (tokR ρ t) (exprR v)
    | .exprS e => .exprS (exprR e)
    | .funcD t n ps body => .funcD (tokR ρ t) (identR ρ n) (ps.map (identR ρ)) (stmtR body)
    | .block t ss rb => .block (tokR ρ t) (stmtListR ss) (tokR ρ rb)
    | .ifS t c a b => .ifS (tokR ρ t) (exprR c) (stmtR a) (stmtR b)
    | .whileS t c b => .whileS (tokR ρ t) (exprR c) (stmtR b)
    | .forS t i c u b => .forS (tokR ρ t) (exprR i) (exprR c) (exprR u) (stmtR b)
  def exprListR : ExprList → ExprList
    | .nil => .nil
    | .cons e t => .cons (exprR e) (exprListR t)
  def stmtListR : StmtList → StmtList
    | .nil => .nil
    | .cons s t => .cons (stmtR s) (stmtListR t)
  def propListR : PropList → PropList
    | .nil => .nil
    | .cons k v t => .cons (exprR k) (exprR v) (propListR t)
end

def eventR (e : Event) : Event := { e with cur := tokR ρ e.cur }

/-- the parser state over the renamed token list -/
def psR (st : PS) : PS :=
  { st with toks := st.toks.map (tokR ρ), trace := st.trace.map (eventR ρ), consumed := st.consumed.map ρ.f }

theorem Renaming.fix (c : TokType) (hc : movable c = false) : ρ.f c = c := (ρ.eq_const_iff c hc c).2 rfl

@[simp] theorem tokR_dummy : tokR ρ dummyTok = dummyTok := by
  unfold tokR dummyTok; simp [ρ.fix .eof rfl]

@[simp] theorem tokR_zero : tokR ρ zeroTok = zeroTok := by
  unfold tokR zeroTok; simp [ρ.fix .illegal rfl]

@[simp] theorem tokR_eofAgain (t : Token) : tokR ρ (eofAgain t) = eofAgain (tokR ρ t) := rfl

@[simp] theorem psR_toks (st : PS) : (psR ρ st).toks = st.toks.map (tokR ρ) := rfl
@[simp] theorem psR_errors (st : PS) : (psR ρ st).errors = st.errors := rfl
@[simp] theorem psR_ctx (st : PS) : (psR ρ st).ctx = st.ctx := rfl
@[simp] theorem psR_curPrec (st : PS) : (psR ρ st).curPrec = st.curPrec := rfl

theorem psR_push (st : PS) (c : Ctx) : (psR ρ st).push c = psR ρ (st.push c) := rfl
theorem psR_pop (st : PS) : (psR ρ st).pop = psR ρ st.pop := rfl

theorem exprR_isNone (e : Expr) : (exprR ρ e).isNone = e.isNone := by cases e <;> simp [exprR, Expr.isNone]

/-- renaming preserves what the parser reads of a token -/
def Renaming.tokMap : TokMap cfg where
  tok := tokR ρ
  ty := ρ.f
  err := id
  type_tok _ := rfl
  lit_tok _ := rfl
  nl_tok _ := rfl
  tok_eofAgain _ := rfl
  tok_dummy := tokR_dummy ρ
  tok_zero := tokR_zero ρ
  err_at _ _ := rfl
  ty_eq_iff := ρ.eq_const_iff
  precs := ρ.precs
  prefixFns := ρ.prefixFns
  infixFns := ρ.infixFns

theorem identR_eq : identR ρ = Ident.mapTok (tokR ρ) := rfl

mutual
  theorem exprR_eq (e : Expr) : exprR ρ e = e.mapTok (tokR ρ) := by
    cases e <;> simp only [exprR, Expr.mapTok, identR_eq, exprR_eq, stmtR_eq, exprListR_eq, propListR_eq]
  theorem stmtR_eq (s : Stmt) : stmtR ρ s = s.mapTok (tokR ρ) := by
    cases s <;> simp only [stmtR, Stmt.mapTok, identR_eq, exprR_eq, stmtR_eq, stmtListR_eq]
  theorem exprListR_eq (l : ExprList) : exprListR ρ l = l.mapTok (tokR ρ) := by
    cases l <;> simp only [exprListR, ExprList.mapTok, exprR_eq, exprListR_eq]
  theorem stmtListR_eq (l : StmtList) : stmtListR ρ l = l.mapTok (tokR ρ) := by
    cases l <;> simp only [stmtListR, StmtList.mapTok, stmtR_eq, stmtListR_eq]
  theorem propListR_eq (l : PropList) : propListR ρ l = l.mapTok (tokR ρ) := by
    cases l <;> simp only [propListR, PropList.mapTok, exprR_eq, propListR_eq]
end

theorem psR_eq (st : PS) : psR ρ st = st.mapTok ρ.tokMap := by
  simp only [psR, PS.mapTok, Renaming.tokMap, List.map_id]; rfl

end Xjs.Ren
