import XjsModel.Proofs.ParserFrame
/-
  Interceptor transparency (C04): a parse with pass-through statement/expression interceptors (observers and
  re-entrant ones, any number, any nesting) returns, whenever it returns, the same tree, errors and token
  position as the parse without interceptors; the only differences are the recorded trace and the
  saved/restored `currentExpressionPrecedence`.

  `cfg.plain` = the configuration without interceptors, `st.strip` = the state without trace/curPrec.
-/
namespace Xjs

def PCfg.plain (cfg : PCfg) : PCfg := { cfg with stmtI := [], exprI := [] }
def PS.strip (st : PS) : PS := { st with trace := [], curPrec := 0 }

@[simp] theorem plain_stmtI (cfg : PCfg) : cfg.plain.stmtI = [] := rfl
@[simp] theorem plain_exprI (cfg : PCfg) : cfg.plain.exprI = [] := rfl
@[simp] theorem plain_tolerant (cfg : PCfg) : cfg.plain.tolerant = cfg.tolerant := rfl
@[simp] theorem plain_smart (cfg : PCfg) : cfg.plain.smart = cfg.smart := rfl
@[simp] theorem plain_precs (cfg : PCfg) : cfg.plain.precs = cfg.precs := rfl
@[simp] theorem plain_prefixFns (cfg : PCfg) : cfg.plain.prefixFns = cfg.prefixFns := rfl
@[simp] theorem plain_infixFns (cfg : PCfg) : cfg.plain.infixFns = cfg.infixFns := rfl

@[simp] theorem strip_toks (st : PS) : st.strip.toks = st.toks := rfl
@[simp] theorem strip_errors (st : PS) : st.strip.errors = st.errors := rfl
@[simp] theorem strip_ctx (st : PS) : st.strip.ctx = st.ctx := rfl
@[simp] theorem strip_cur (st : PS) : st.strip.cur = st.cur := rfl
@[simp] theorem strip_peek (st : PS) : st.strip.peek = st.peek := rfl
@[simp] theorem strip_curPrec (st : PS) : st.strip.curPrec = 0 := rfl
theorem strip_next (st : PS) : st.strip.next = st.next.strip := by
  unfold PS.next PS.strip; split <;> simp_all
theorem strip_addErrorAt (st : PS) (m : Bytes) (t : Token) : st.strip.addErrorAt m t = (st.addErrorAt m t).strip := rfl
theorem strip_addError (st : PS) (m : Bytes) : st.strip.addError m = (st.addError m).strip := rfl
theorem strip_push (st : PS) (c : Ctx) : st.strip.push c = (st.push c).strip := rfl
theorem strip_pop (st : PS) : st.strip.pop = st.pop.strip := rfl
@[simp] theorem strip_set (st : PS) (p : Nat) (t : List Event) :
    PS.strip { st with curPrec := p, trace := t } = st.strip := rfl
@[simp] theorem strip_setPrec (st : PS) (p : Nat) : PS.strip { st with curPrec := p } = st.strip := rfl
@[simp] theorem strip_setTrace (st : PS) (t : List Event) : PS.strip { st with trace := t } = st.strip := rfl
@[simp] theorem strip_identOfCur (st : PS) : identOfCur st.strip = identOfCur st := rfl
@[simp] theorem strip_peekPrecedence (cfg : PCfg) (st : PS) : peekPrecedence cfg.plain st.strip = peekPrecedence cfg st := rfl
@[simp] theorem strip_curPrecedence (cfg : PCfg) (st : PS) : curPrecedence cfg.plain st.strip = curPrecedence cfg st := rfl

theorem strip_lt_peekPrec (cfg : PCfg) (st : PS) (prec : Nat) :
    decide (prec < peekPrecedence cfg.plain st.strip) = decide (prec < peekPrecedence cfg st) := rfl

theorem strip_expectToken (ty : TokType) (st : PS) :
    expectToken ty st.strip = ((expectToken ty st).1, (expectToken ty st).2.strip) := by
  by_cases h : (st.peek.type == ty) = true
  · simp [expectToken, h, strip_next]
  · simp [expectToken, h, strip_addErrorAt]

theorem strip_expectSemi (cfg : PCfg) (st : PS) :
    expectSemiASI cfg.plain st.strip = ((expectSemiASI cfg st).1, (expectSemiASI cfg st).2.strip) := by
  have hs : shouldInsertSemicolon st.strip = shouldInsertSemicolon st := rfl
  by_cases h1 : (st.peek.type == .semicolon) = true
  · simp [expectSemiASI, h1, strip_next]
  · by_cases h2 : shouldInsertSemicolon st = true
    · simp [expectSemiASI, h1, hs, h2]
    · by_cases h3 : cfg.tolerant = true
      · simp [expectSemiASI, h1, hs, h2, h3]
      · simp [expectSemiASI, h1, hs, h2, h3, strip_addErrorAt]

@[simp] theorem addError_curPrec (st : PS) (m : Bytes) : (st.addError m).curPrec = st.curPrec := rfl
@[simp] theorem push_curPrec (st : PS) (c : Ctx) : (st.push c).curPrec = st.curPrec := rfl
@[simp] theorem pop_curPrec (st : PS) : st.pop.curPrec = st.curPrec := rfl

end Xjs
