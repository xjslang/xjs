import XjsModel.Proofs.ParseRel
import XjsModel.Spec.TreeShape
/-
  C11 (c): statement lists in every tree the parser returns never contain nil entries — for every input,
  every mode, whatever errors were reported. An induction on `Parse`.
-/
namespace Xjs

/-- no statement list of a result contains a nil entry -/
def Kind.Wf : (k : Kind) → k.type → Prop
  | .stmt, s => s.wf = true
  | .expr, e => e.wf = true
  | .exprs, l => l.wf = true
  | .stmts, l => l.wf = true
  | .props, o => ∀ p, o = some p → p.wf = true
  | .idents, _ => True

/-- what a call returns has no nil entry in a statement list, if the tree it was handed has none -/
def Call.Wf : {k : Kind} → Call k → k.type → Prop
  | _, .remaining left _, x | _, .infix left, x => left.wf = true → x.wf = true
  | _, .exprListLoop acc, x => acc.wf = true → x.wf = true
  | _, .objLoop acc, x => acc.wf = true → ∀ p, x = some p → p.wf = true
  | _, .blockLoop acc, x | _, .programLoop acc, x => acc.wf = true → x.wf = true
  | _, .endStmt s, x => s.wf = true → x.wf = true
  | k, _, x => k.Wf x

theorem Parse.wf {cfg : PCfg} {E : Prop} {k : Kind} {c : Call k} {st : PS} {x : k.type} {st' : PS}
    (h : Parse cfg E c st x st') : c.Wf x := by
  induction h
  case base ih => unfold stmtCall at ih; split at ih <;> exact ih
  case blockLoop_step ih1 ih2 | programLoop_step ih1 ih2 =>
    exact fun hacc => ih2 (by split <;> simp_all [Call.Wf, Kind.Wf, StmtList.wf_snoc])
  all_goals simp_all [Kind.Wf, Call.Wf, Expr.wf, Stmt.wf, ExprList.wf, StmtList.wf, PropList.wf, ExprList.wf_snoc,
    PropList.wf_snoc]

theorem wf_mutual (cfg : PCfg) :
    (∀ is st r, parseStatementI cfg is st = some r → r.1.wf = true) ∧
    (∀ st r, baseParseStatement cfg st = some r → r.1.wf = true) ∧
    (∀ st r, parseExpressionStatement cfg st = some r → r.1.wf = true) ∧
    (∀ is prec st r, parseExpressionI cfg is prec st = some r → r.1.wf = true) ∧
    (∀ left prec st r, parseRemaining cfg left prec st = some r → left.wf = true → r.1.wf = true) ∧
    (∀ left st r, parseInfixExpression cfg left st = some r → left.wf = true → r.1.wf = true) ∧
    (∀ endTy st r, parseExpressionList cfg endTy st = some r → r.1.wf = true) ∧
    (∀ acc st r, exprListLoop cfg acc st = some r → acc.wf = true → r.1.wf = true) ∧
    (∀ st r, parsePrefixExpression cfg st = some r → r.1.wf = true) ∧
    (∀ st r, parseFunctionExpression cfg st = some r → r.1.wf = true) ∧
    (∀ st r, parseBlockStatement cfg st = some r → r.1.wf = true) ∧
    (∀ acc st r, blockLoop cfg acc st = some r → acc.wf = true → r.1.wf = true) ∧
    (∀ st r, parseObjectLiteral cfg st = some r → r.1.wf = true) ∧
    (∀ acc st r, objectLoop cfg acc st = some r → acc.wf = true → ∀ p, r.1 = some p → p.wf = true) ∧
    (∀ st r, parseForStatement cfg st = some r → r.1.wf = true) ∧
    (∀ st r, parseForInit cfg st = some r → r.1.wf = true) ∧
    (∀ st r, parseLetExpression cfg st = some r → r.1.wf = true) ∧
    (∀ st r, parseWhileStatement cfg st = some r → r.1.wf = true) ∧
    (∀ st r, parseIfStatement cfg st = some r → r.1.wf = true) ∧
    (∀ st r, parseReturnStatement cfg st = some r → r.1.wf = true) ∧
    (∀ st r, parseFunctionStatement cfg st = some r → r.1.wf = true) ∧
    (∀ st r, parseLetStatement cfg st = some r → r.1.wf = true) :=
  Parse.run_mutual (M := fun c _ r => c.Wf r.1) fun _ _ _ h => (Parse.of_run h).wf

end Xjs
