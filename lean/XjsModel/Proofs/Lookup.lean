import XjsModel.Model.Parser

/-! `lookup` finds a row of its table; a fact about every row of a built-in table is checked by evaluation. -/

namespace Xjs

theorem lookup_mem {β : Type} {l : List (TokType × β)} {t : TokType} {v : β} (h : lookup l t = some v) : (t, v) ∈ l := by
  unfold lookup at h
  split at h
  · rename_i kv hk
    cases h
    have : kv.1 = t := by simpa using List.find?_some hk
    rw [← this]; exact List.mem_of_find?_eq_some hk
  · cases h

theorem precOf_mem (cfg : PCfg) (ty : TokType) : precOf cfg ty = LOWEST ∨ (ty, precOf cfg ty) ∈ cfg.precs := by
  unfold precOf
  cases h : lookup cfg.precs ty with
  | none => exact Or.inl rfl
  | some p => exact Or.inr (lookup_mem h)

/-- every operator with a binding power above LOWEST has an infix parse function; MEMBER is the highest -/
theorem basePrecedences_rows :
    ∀ kv ∈ basePrecedences, 1 < kv.2 ∧ kv.2 ≤ 12 ∧ (lookup baseInfixFns kv.1).isSome = true := by decide

theorem basePrefixFns_rows : ∀ kv ∈ basePrefixFns,
    (kv.2 = .unary → kv.1 = .not ∨ kv.1 = .minus ∨ kv.1 = .increment ∨ kv.1 = .decrement) ∧
    (kv.2 = .ident → kv.1 = .ident) ∧ (kv.2 = .int → kv.1 = .int) ∧ (kv.2 = .float → kv.1 = .float) ∧
    (kv.2 = .string → kv.1 = .string) ∧ (kv.2 = .rawString → kv.1 = .rawString) ∧
    (kv.2 = .bool → kv.1 = .true_ ∨ kv.1 = .false_) ∧ (kv.2 = .null → kv.1 = .null) := by decide

theorem unary_type {ty : TokType} (h : lookup basePrefixFns ty = some .unary) :
    ty = .not ∨ ty = .minus ∨ ty = .increment ∨ ty = .decrement :=
  (basePrefixFns_rows _ (lookup_mem h)).1 rfl

theorem baseInfixFns_rows : ∀ kv ∈ baseInfixFns,
    (kv.2 = .binary → precOf { } kv.1 = operatorPrecedence kv.1 ∧ 3 ≤ operatorPrecedence kv.1 ∧ operatorPrecedence kv.1 ≤ 8 ∧
      kv.1 ≠ .semicolon ∧ kv.1 ≠ .lparen ∧ kv.1 ≠ .lbracket ∧ kv.1 ≠ .increment ∧ kv.1 ≠ .decrement) ∧
    (kv.2 = .postfix → kv.1 = .increment ∨ kv.1 = .decrement) := by decide

theorem postfix_update {ty : TokType} (h : lookup baseInfixFns ty = some .postfix) : ty = .increment ∨ ty = .decrement :=
  (baseInfixFns_rows _ (lookup_mem h)).2 rfl

end Xjs
