import XjsModel.Proofs.ParserTokMap
/-
  Erasing token positions (C03, print → lex → parse): the parser reads of a token its type, its literal and its
  after-newline flag; positions are only copied — into the tree, into error ranges, into the trace. So parsing commutes
  with setting every position to zero (`tokZ`). This file: the erasure on tokens, trees, events, errors and parser states,
  and that it is a token map (`posMap`) in the sense of `ParserTokMap.lean`.
-/
namespace Xjs.Pos
open Xjs
variable {cfg : PCfg}

def tokZ (t : Token) : Token := { t with sl := 0, sc := 0, el := 0, ec := 0 }

@[simp] theorem tokZ_type (t : Token) : (tokZ t).type = t.type := rfl
@[simp] theorem tokZ_lit (t : Token) : (tokZ t).lit = t.lit := rfl
@[simp] theorem tokZ_comments (t : Token) : (tokZ t).comments = t.comments := rfl
@[simp] theorem tokZ_nl (t : Token) : (tokZ t).nl = t.nl := rfl

def identZ (i : Ident) : Ident := { i with tok := tokZ i.tok }

mutual
  def exprZ : Expr → Expr
    | .none => .none
    | .ident id => .ident (identZ id)
    | .int t => .int (tokZ t)
    | .float t => .float (tokZ t)
    | .str t v => .str (tokZ t) v
    | .raw t v => .raw (tokZ t) v
    | .bool t v => .bool (tokZ t) v
    | .null t => .null (tokZ t)
    | .letE t n v => .letE (tokZ t) (identZ n) (exprZ v)
    | .binary t l op r => .binary (tokZ t) (exprZ l) op (exprZ r)
    | .unary t op r => .unary (tokZ t) op (exprZ r)
    | .postfix t l op => .postfix (tokZ t) (exprZ l) op
    | .group t e rp => .group (tokZ t) (exprZ e) (tokZ rp)
    | .call t f args => .call (tokZ t) (exprZ f) (exprListZ args)
    | .member t o p c => .member (tokZ t) (exprZ o) (exprZ p) c
    | .assign t l v => .assign (tokZ t) (exprZ l) (exprZ v)
    | .compound t l op v => .compound (tokZ t) (exprZ l) op (exprZ v)
    | .func t name ps body => .func (tokZ t) (name.map (identZ)) (ps.map (identZ)) (stmtZ body)
    | .array t es rb => .array (tokZ t) (exprListZ es) (tokZ rb)
    | .object t ps rb => .object (tokZ t) (propListZ ps) (tokZ rb)
  def stmtZ : Stmt → Stmt
    | .none => .none
    | .letS t n v => .letS (tokZ t) (identZ n) (exprZ v)
    | .ret t v => .ret (tokZ t) (exprZ v)
    | .exprS e => .exprS (exprZ e)
    | .funcD t n ps body => .funcD (tokZ t) (identZ n) (ps.map (identZ)) (stmtZ body)
    | .block t ss rb => .block (tokZ t) (stmtListZ ss) (tokZ rb)
    | .ifS t c a b => .ifS (tokZ t) (exprZ c) (stmtZ a) (stmtZ b)
    | .whileS t c b => .whileS (tokZ t) (exprZ c) (stmtZ b)
    | .forS t i c u b => .forS (tokZ t) (exprZ i) (exprZ c) (exprZ u) (stmtZ b)
  def exprListZ : ExprList → ExprList
    | .nil => .nil
    | .cons e t => .cons (exprZ e) (exprListZ t)
  def stmtListZ : StmtList → StmtList
    | .nil => .nil
    | .cons s t => .cons (stmtZ s) (stmtListZ t)
  def propListZ : PropList → PropList
    | .nil => .nil
    | .cons k v t => .cons (exprZ k) (exprZ v) (propListZ t)
end

def eventZ (e : Event) : Event := { e with cur := tokZ e.cur }

def errZ (e : PErr) : PErr := { e with sl := 0, sc := 0, el := 0, ec := 0 }

/-- the parser state over the position-free token list -/
def psZ (st : PS) : PS :=
  { st with toks := st.toks.map tokZ, trace := st.trace.map eventZ, errors := st.errors.map errZ }

@[simp] theorem tokZ_dummy : tokZ dummyTok = dummyTok := rfl
@[simp] theorem tokZ_zero : tokZ zeroTok = zeroTok := rfl
@[simp] theorem tokZ_eofAgain (t : Token) : tokZ (eofAgain t) = eofAgain (tokZ t) := rfl
@[simp] theorem tokZ_tokZ (t : Token) : tokZ (tokZ t) = tokZ t := rfl

@[simp] theorem psZ_toks (st : PS) : (psZ st).toks = st.toks.map tokZ := rfl
@[simp] theorem psZ_errors (st : PS) : (psZ st).errors = st.errors.map errZ := rfl
@[simp] theorem psZ_ctx (st : PS) : (psZ st).ctx = st.ctx := rfl
@[simp] theorem psZ_curPrec (st : PS) : (psZ st).curPrec = st.curPrec := rfl

@[simp] theorem psZ_cur_lit (st : PS) : (psZ st).cur.lit = st.cur.lit := by
  unfold PS.cur psZ; cases st.toks <;> rfl
@[simp] theorem psZ_peek_lit (st : PS) : (psZ st).peek.lit = st.peek.lit := by
  unfold PS.peek psZ
  match st.toks with
  | [] | [_] | _ :: _ :: _ => rfl

theorem psZ_push (st : PS) (c : Ctx) : (psZ st).push c = psZ (st.push c) := rfl
theorem psZ_pop (st : PS) : (psZ st).pop = psZ st.pop := rfl

theorem exprZ_isNone (e : Expr) : (exprZ e).isNone = e.isNone := by cases e <;> simp [exprZ, Expr.isNone]

/-- erasing positions preserves what the parser reads of a token, whatever the configuration -/
def posMap (cfg : PCfg) : TokMap cfg where
  tok := tokZ
  ty := id
  err := errZ
  type_tok _ := rfl
  lit_tok _ := rfl
  nl_tok _ := rfl
  tok_eofAgain _ := rfl
  tok_dummy := rfl
  tok_zero := rfl
  err_at _ _ := rfl
  ty_eq_iff _ _ _ := Iff.rfl
  precs _ := rfl
  prefixFns _ := rfl
  infixFns _ := rfl

theorem identZ_eq : identZ = Ident.mapTok tokZ := rfl

mutual
  theorem exprZ_eq (e : Expr) : exprZ e = e.mapTok tokZ := by
    cases e <;> simp only [exprZ, Expr.mapTok, identZ_eq, exprZ_eq, stmtZ_eq, exprListZ_eq, propListZ_eq]
  theorem stmtZ_eq (s : Stmt) : stmtZ s = s.mapTok tokZ := by
    cases s <;> simp only [stmtZ, Stmt.mapTok, identZ_eq, exprZ_eq, stmtZ_eq, stmtListZ_eq]
  theorem exprListZ_eq (l : ExprList) : exprListZ l = l.mapTok tokZ := by
    cases l <;> simp only [exprListZ, ExprList.mapTok, exprZ_eq, exprListZ_eq]
  theorem stmtListZ_eq (l : StmtList) : stmtListZ l = l.mapTok tokZ := by
    cases l <;> simp only [stmtListZ, StmtList.mapTok, stmtZ_eq, stmtListZ_eq]
  theorem propListZ_eq (l : PropList) : propListZ l = l.mapTok tokZ := by
    cases l <;> simp only [propListZ, PropList.mapTok, exprZ_eq, propListZ_eq]
end

theorem psZ_eq (cfg : PCfg) (st : PS) : psZ st = st.mapTok (posMap cfg) := by
  simp only [psZ, PS.mapTok, posMap, List.map_id]; rfl

theorem psZ_setTrace (st : PS) (b : Bool) (id : Nat) :
    psZ { st with trace := st.trace ++ [st.event b id] } =
      { psZ st with trace := (psZ st).trace ++ [(psZ st).event b id] } := by
  simp only [psZ_eq {}]; exact PS.mapTok_setBoth _ st st.curPrec b id
theorem psZ_setPrec (st : PS) (p : Nat) : psZ { st with curPrec := p } = { psZ st with curPrec := p } := rfl

end Xjs.Pos
