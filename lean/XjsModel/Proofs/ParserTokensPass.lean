import XjsModel.Proofs.ParserTokens
/-
  The token-faithfulness pass (C12, C01, C02): a parse step that records no error has consumed exactly the
  token sequence of the node it returns (without `;` and `,`), in order — nothing skipped, nothing invented.
  An induction on the error-free fragment `Parse cfg False`.
-/
namespace Xjs

/-- what the log of consumed tokens says after a call that recorded no error. A statement or expression parser is
    entered on the first token of its node and leaves on the last one; a call that continues a node it was handed
    (`left`, `acc`, the `function` keyword and name) extends whatever spelt that part. -/
def Call.Tokens : {k : Kind} → Call k → PS → k.type → PS → Prop
  | _, .remaining left _, st, x, st' | _, .infix left, st, x, st' =>
    (left.isNone = false → x.isNone = false) ∧ ∀ P, FL st = P ++ F left.flat → FL st' = P ++ F x.flat
  | _, .funcTail tok name, st, x, st' =>
    x.isNone = false ∧
      ∀ P, FL st = P ++ F (tok.type :: match name with | some n => [n.tok.type] | none => []) → FL st' = P ++ F x.flat
  | _, .endStmt s, st, x, st' => x = s ∧ FL st' = FL st
  | _, .forInit, st, x, st' | _, .optExpr _, st, x, st' => FL st' = FL st ++ F x.flat
  | _, .exprList endTy, st, x, st' => FL st' = FL st ++ F x.flat ++ F [endTy]
  | _, .exprListLoop acc, st, x, st' => ∀ P, FL st = P ++ F acc.flat → FL st' = P ++ F x.flat
  | _, .objLoop acc, st, x, st' => ∀ P, FC st = P ++ F acc.flat → ∃ p, x = some p ∧ FL st' = P ++ F p.flat
  | _, .blockLoop acc, st, x, st' | _, .programLoop acc, st, x, st' =>
    ∀ P, FC st = P ++ F acc.flat → FC st' = P ++ F x.flat
  | _, .paramsLoop acc, st, x, st' => ∀ P, FL st = P ++ F (identsFlat acc) → FL st' = P ++ F (identsFlat x)
  | _, .params, st, x, st' => FL st' = FL st ++ F (identsFlat x) ++ [.rparen]
  | .stmt, _, st, x, st' => x.isNone = false ∧ FL st' = FC st ++ F x.flat
  | .expr, _, st, x, st' => x.isNone = false ∧ FL st' = FC st ++ F x.flat

theorem Parse.tokens {cfg : PCfg} {k : Kind} {c : Call k} {st : PS} {x : k.type} {st' : PS}
    (h : Parse cfg False c st x st') : c.Tokens st x st' := by
  induction h
  -- the paths that record an error
  any_goals (exfalso; assumption)
  case base ih => unfold stmtCall at ih; split at ih <;> exact ih
  case remaining_step ih1 ih2 => exact ⟨fun h => ih2.1 (ih1.1 h), fun P hP => ih2.2 P (ih1.2 P hP)⟩
  case exprI_nil ih1 ih2 | exprI_reenter ih1 ih2 => exact ⟨ih2.1 ih1.1, ih2.2 _ ih1.2⟩
  case blockLoop_step ih1 ih2 | programLoop_step ih1 ih2 =>
    intro P hP
    refine ih2 P ?_
    rw [FC_next, ih1.2, hP, ih1.1]
    simp [StmtList.flat_snoc]
  case block st _ _ ih =>
    refine ⟨rfl, ?_⟩
    rw [FL_pop, FL_eq, ih (FL st) (by simp [StmtList.flat]), FL_eq st]
    simp [Stmt.flat, F_cons_append]
  case exprListLoop_step hc _ _ ih1 ih2 =>
    intro P hP
    refine ih2 P ?_
    rw [ih1.2, FC_next, FL_next, hc, hP]
    simp [ExprList.flat_snoc]
  case objLoop_last hc _ _ ih1 ih2 =>
    intro P hP
    refine ⟨_, rfl, ?_⟩
    rw [ih2.2, FC_next, FL_expectToken_ok hc, ih1.2, hP]
    simp [PropList.flat_snoc, F_cons_eflat]
  case objLoop_step hc _ hm _ ih1 ih2 ih3 =>
    intro P hP
    refine ih3 P ?_
    rw [FC_next, FL_next, hm, ih2.2, FC_next, FL_expectToken_ok hc, ih1.2, hP]
    simp [PropList.flat_snoc, F_cons_eflat]
  -- the property loop gives up only after recording an error
  case objLit_errColon st _ _ ih =>
    obtain ⟨_, hp, _⟩ := ih (FL st) (by simp [PropList.flat])
    cases hp
  case funcE_named ih => exact ⟨ih.1, ih.2 _ (by simp [FL_eq, next_cur, F_cons_cons])⟩
  case funcE_anon ih => exact ⟨ih.1, ih.2 _ (FL_eq _)⟩
  case funcTail name h1 _ h2 _ ih1 ih2 =>
    refine ⟨rfl, fun P hP => ?_⟩
    rw [FL_pop, ih2.2, FC_push, FC_expectToken_ok h2, ih1, FL_expectToken_ok h1, hP]
    cases name <;> simp [Expr.flat, identsFlat, F_cons_cons, F_cons_append, F_cons_sflat]
  -- everywhere else the node is built from the tokens passed and the nodes of the sub-parses, in order
  all_goals simp_all [Call.Tokens, Expr.flat, Stmt.flat, ExprList.flat, PropList.flat, Expr.isNone, Stmt.isNone,
    identsFlat, F_cons_cons, F_cons_append, F_cons_eflat, F_cons_sflat, FC_cur, FC_cur_append, FL_expectToken_ok,
    FC_expectToken_ok, cur_expectToken_ok, FL_expectSemi_ok, next_cur]

theorem tokens_mutual (cfg : PCfg) :
    (∀ is st r, parseStatementI cfg is st = some r → st.elen ≤ r.2.elen ∧ ((r.1.isNone = false ∧ FL r.2 = FC st ++ F r.1.flat) ∨ st.elen < r.2.elen)) ∧
    (∀ st r, baseParseStatement cfg st = some r → st.elen ≤ r.2.elen ∧ ((r.1.isNone = false ∧ FL r.2 = FC st ++ F r.1.flat) ∨ st.elen < r.2.elen)) ∧
    (∀ st r, parseExpressionStatement cfg st = some r → st.elen ≤ r.2.elen ∧ ((r.1.isNone = false ∧ FL r.2 = FC st ++ F r.1.flat) ∨ st.elen < r.2.elen)) ∧
    (∀ is prec st r, parseExpressionI cfg is prec st = some r → st.elen ≤ r.2.elen ∧ ((r.1.isNone = false ∧ FL r.2 = FC st ++ F r.1.flat) ∨ st.elen < r.2.elen)) ∧
    (∀ left prec st r, parseRemaining cfg left prec st = some r → st.elen ≤ r.2.elen ∧ (((left.isNone = false → r.1.isNone = false) ∧ ∀ P, FL st = P ++ F left.flat → FL r.2 = P ++ F r.1.flat) ∨ st.elen < r.2.elen)) ∧
    (∀ left st r, parseInfixExpression cfg left st = some r → st.elen ≤ r.2.elen ∧ (((left.isNone = false → r.1.isNone = false) ∧ ∀ P, FL st = P ++ F left.flat → FL r.2 = P ++ F r.1.flat) ∨ st.elen < r.2.elen)) ∧
    (∀ endTy st r, parseExpressionList cfg endTy st = some r → st.elen ≤ r.2.elen ∧ ((FL r.2 = FL st ++ F r.1.flat ++ F [endTy]) ∨ st.elen < r.2.elen)) ∧
    (∀ acc st r, exprListLoop cfg acc st = some r → st.elen ≤ r.2.elen ∧ ((∀ P, FL st = P ++ F acc.flat → FL r.2 = P ++ F r.1.flat) ∨ st.elen < r.2.elen)) ∧
    (∀ st r, parsePrefixExpression cfg st = some r → st.elen ≤ r.2.elen ∧ ((r.1.isNone = false ∧ FL r.2 = FC st ++ F r.1.flat) ∨ st.elen < r.2.elen)) ∧
    (∀ st r, parseFunctionExpression cfg st = some r → st.elen ≤ r.2.elen ∧ ((r.1.isNone = false ∧ FL r.2 = FC st ++ F r.1.flat) ∨ st.elen < r.2.elen)) ∧
    (∀ st r, parseBlockStatement cfg st = some r → st.elen ≤ r.2.elen ∧ ((r.1.isNone = false ∧ FL r.2 = FC st ++ F r.1.flat) ∨ st.elen < r.2.elen)) ∧
    (∀ acc st r, blockLoop cfg acc st = some r → st.elen ≤ r.2.elen ∧ ((∀ P, FC st = P ++ F acc.flat → FC r.2 = P ++ F r.1.flat) ∨ st.elen < r.2.elen)) ∧
    (∀ st r, parseObjectLiteral cfg st = some r → st.elen ≤ r.2.elen ∧ ((r.1.isNone = false ∧ FL r.2 = FC st ++ F r.1.flat) ∨ st.elen < r.2.elen)) ∧
    (∀ acc st r, objectLoop cfg acc st = some r → st.elen ≤ r.2.elen ∧ ((∀ P, FC st = P ++ F acc.flat → ∃ p, r.1 = some p ∧ FL r.2 = P ++ F p.flat) ∨ st.elen < r.2.elen)) ∧
    (∀ st r, parseForStatement cfg st = some r → st.elen ≤ r.2.elen ∧ ((r.1.isNone = false ∧ FL r.2 = FC st ++ F r.1.flat) ∨ st.elen < r.2.elen)) ∧
    (∀ st r, parseForInit cfg st = some r → st.elen ≤ r.2.elen ∧ ((FL r.2 = FL st ++ F r.1.flat) ∨ st.elen < r.2.elen)) ∧
    (∀ st r, parseLetExpression cfg st = some r → st.elen ≤ r.2.elen ∧ ((r.1.isNone = false ∧ FL r.2 = FC st ++ F r.1.flat) ∨ st.elen < r.2.elen)) ∧
    (∀ st r, parseWhileStatement cfg st = some r → st.elen ≤ r.2.elen ∧ ((r.1.isNone = false ∧ FL r.2 = FC st ++ F r.1.flat) ∨ st.elen < r.2.elen)) ∧
    (∀ st r, parseIfStatement cfg st = some r → st.elen ≤ r.2.elen ∧ ((r.1.isNone = false ∧ FL r.2 = FC st ++ F r.1.flat) ∨ st.elen < r.2.elen)) ∧
    (∀ st r, parseReturnStatement cfg st = some r → st.elen ≤ r.2.elen ∧ ((r.1.isNone = false ∧ FL r.2 = FC st ++ F r.1.flat) ∨ st.elen < r.2.elen)) ∧
    (∀ st r, parseFunctionStatement cfg st = some r → st.elen ≤ r.2.elen ∧ ((r.1.isNone = false ∧ FL r.2 = FC st ++ F r.1.flat) ∨ st.elen < r.2.elen)) ∧
    (∀ st r, parseLetStatement cfg st = some r → st.elen ≤ r.2.elen ∧ ((r.1.isNone = false ∧ FL r.2 = FC st ++ F r.1.flat) ∨ st.elen < r.2.elen)) :=
  Parse.run_mutual (M := fun c st r => st.elen ≤ r.2.elen ∧ (c.Tokens st r.1 r.2 ∨ st.elen < r.2.elen))
    fun _ _ _ h => (Parse.of_run h).ok_or_err Parse.tokens

end Xjs
