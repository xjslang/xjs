import XjsModel.Proofs.RaUnfold
/-
  Round trip: the Pratt invariant; what follows from it for a sub-expression in operand position, in
  parentheses, in a comma-separated list; parameter lists.
-/
namespace Xjs.RA
open Xjs

variable {cfg : PCfg}

/-- the Pratt invariant for one spec expression -/
def Main (cfg : PCfg) (s : SE) : Prop :=
  ∀ (p : Nat) (st : PS) (rest : List Token), rest ≠ [] → st.toks = s.toks ++ rest → s.fits p → stops cfg s.rbl rest →
    parseExpressionI cfg [] p st = parseRemaining cfg s.tree p (nextK (s.toks.length - 1) st)

theorem toks_split (s : SE) : ∃ pre last, s.toks = pre ++ [last] ∧ pre.length = s.toks.length - 1 := by
  have h := toks_ne_nil s
  refine ⟨s.toks.dropLast, s.toks.getLast h, (List.dropLast_concat_getLast h).symm, by simp⟩

/-- the value of a whole sub-expression, once the loop at level `q` stops behind it -/
theorem eval_of_main (s : SE) (ih : Main cfg s) (q : Nat) (st : PS) (rest : List Token) (hr : rest ≠ [])
    (ht : st.toks = s.toks ++ rest) (hf : s.fits q) (hs : stops cfg s.rbl rest) (hq : stops cfg q rest) :
    parseExpressionI cfg [] q st = some (s.tree, nextK (s.toks.length - 1) st) := by
  rw [ih q st rest hr ht hf hs]
  cases rest with
  | nil => exact absurd rfl hr
  | cons t r => exact remaining_stop _ _ _ r (by rw [peek_after (toks_ne_nil s) ht]; exact hq)

/-- a token that binds no tighter than LOWEST (a closing bracket, `,`, `:`, `;`) ends every expression in front of it -/
theorem stops_closer (hc : BaseCfg cfg) (c : Token) (rest : List Token) (h : precOf { } c.type ≤ 1) :
    stops cfg LOWEST (c :: rest) :=
  stops_prec (by rw [precOf_base hc]; exact h)

/-- an expression where it is parsed at the lowest level, in front of a token that no loop goes on over -/
theorem eval_lowest (hc : BaseCfg cfg) (e : SE) (hw : e.wf = true) (ih : Main cfg e) (st : PS) (rest : List Token)
    (ht : st.toks = e.toks ++ rest) (hs : stops cfg LOWEST rest) :
    parseExpressionI cfg cfg.exprI LOWEST st = some (e.tree, nextK (e.toks.length - 1) st) := by
  rw [hc.exprI]
  have hr : rest ≠ [] := by intro h; rw [h] at hs; exact hs
  exact eval_of_main e ih LOWEST st rest hr ht (fits_lowest e hw) (stops_mono hs (rbl_ge_one e hw)) hs

/-- parentheses around an expression -/
theorem case_grp (hc : BaseCfg cfg) (lp : Token) (e : SE) (rp : Token) (hw : (SE.grp lp e rp).wf = true) (ih : Main cfg e) :
    Main cfg (.grp lp e rp) := by
  intro p st rest _ ht _ _
  simp only [SE.wf, Bool.and_eq_true, beq_iff_eq] at hw
  obtain ⟨⟨hlp, hrp⟩, hwe⟩ := hw
  have ht1 : st.toks = lp :: (e.toks ++ rp :: rest) := by rw [ht]; simp [SE.toks]
  have hn : st.next.toks = e.toks ++ rp :: rest := next_toks ht1 (by simp)
  have e1 := eval_lowest hc e hwe ih st.next _ hn (stops_prec (by rw [hrp, precOf_base hc]; decide))
  have hpk := peek_after (toks_ne_nil e) hn
  rw [unfold_expr, prefix_group hc st (by rw [cur_of_toks ht1]; exact hlp), e1]
  simp only [Option.bind_eq_bind, Option.bind_some, expect_ok (hpk ▸ hrp), if_true, next_cur, hpk, cur_of_toks ht1]
  show parseRemaining cfg (SE.grp lp e rp).tree p _ = _
  congr 1
  have := toks_len_pos e
  simp only [next_eq, nextK_nextK, SE.toks, List.length_cons, List.length_append, List.length_nil]
  exact nextK_congr (by omega) _

/-! ### operands: parenthesised by the printer (`b`) or not -/

def SE.wrap (b : Bool) (s : SE) : SE := if b then .grp lpT s rpT else s

theorem wrap_toks (b : Bool) (s : SE) : (s.wrap b).toks = wrapToks b s.toks := by cases b <;> rfl
theorem wrap_tree (b : Bool) (s : SE) : (s.wrap b).tree = wrapTree b s.tree := by cases b <;> rfl
theorem wrap_rbl (b : Bool) (s : SE) : (s.wrap b).rbl = if b then precAtomic else s.rbl := by cases b <;> rfl
theorem wrap_fits {b : Bool} {s : SE} {q : Nat} (h : b = false → s.fits q) : (s.wrap b).fits q := by
  cases b
  · exact h rfl
  · trivial

theorem wrap_main (hc : BaseCfg cfg) (b : Bool) (s : SE) (hw : s.wf = true) (ih : Main cfg s) : Main cfg (s.wrap b) := by
  cases b
  · exact ih
  · exact case_grp hc lpT s rpT (by simpa [SE.wf, lpT, rpT] using hw) ih

/-! ### expression lists -/

/-- the comma loop of an expression list -/
def LoopInv (cfg : PCfg) (es : SEList) : Prop :=
  ∀ (acc : ExprList) (st : PS) (last endT : Token) (rest : List Token), rest ≠ [] →
    st.toks = last :: (es.ctoks ++ endT :: rest) → endT.type ≠ .comma → precOf cfg endT.type ≤ 1 →
    exprListLoop cfg acc st = some (acc.app es.tree, nextK es.ctoks.length st)

/-- `ParseExpressionList` from the opening token to the closing one -/
def MainList (cfg : PCfg) (es : SEList) : Prop :=
  ∀ (st : PS) (opn endT : Token) (rest : List Token), rest ≠ [] →
    st.toks = opn :: (es.toks ++ endT :: rest) → (endT.type = .rparen ∨ endT.type = .rbracket) →
    parseExpressionList cfg endT.type st = some (es.tree, nextK (es.toks.length + 1) st)

theorem loop_nil : LoopInv cfg .nil := by
  intro acc st last endT rest _ ht hc1 _
  rw [loop_stop acc st (by rw [peek_of_toks ht]; exact hc1)]
  simp [SEList.tree, SEList.ctoks, nextK, ExprList.app_nil]

/-- behind an element of a list: a comma or the closing token -/
theorem stops_ctoks (hc : BaseCfg cfg) (es : SEList) (endT : Token) (rest : List Token) (hp1 : precOf cfg endT.type ≤ 1) :
    stops cfg LOWEST (es.ctoks ++ endT :: rest) := by
  cases es with
  | nil => exact stops_prec hp1
  | cons e2 es2 => exact stops_closer hc commaT _ (by decide)

theorem loop_cons (hc : BaseCfg cfg) (e : SE) (es : SEList) (hw : e.wf = true) (ihe : Main cfg e) (ihl : LoopInv cfg es) :
    LoopInv cfg (.cons e es) := by
  intro acc st last endT rest hr ht hc1 hp1
  have ht' : st.toks = last :: commaT :: (e.toks ++ (es.ctoks ++ endT :: rest)) := by rw [ht]; simp [SEList.ctoks]
  have hn : st.next.next.toks = e.toks ++ (es.ctoks ++ endT :: rest) := toks_at [last, commaT] _ st ht' (by simp [toks_ne_nil])
  obtain ⟨lastE, hl⟩ := toks_after (toks_ne_nil e) hn
  rw [loop_step acc st (by rw [peek_of_toks ht']; rfl), eval_lowest hc e hw ihe _ _ hn (stops_ctoks hc es endT rest hp1)]
  simp only [Option.bind_eq_bind, Option.bind_some]
  rw [ihl (acc.snoc e.tree) _ lastE endT rest hr hl hc1 hp1, ExprList.snoc_app]
  congr 2
  have := toks_len_pos e
  simp only [next_eq, nextK_nextK, SEList.ctoks, List.length_cons, List.length_append]
  exact nextK_congr (by omega) _

/-- a token that starts an expression is none of those without a prefix role -/
theorem prefix_ne {ty x : TokType} (h : (lookup basePrefixFns ty).isSome = true) (hx : lookup basePrefixFns x = none) : ty ≠ x :=
  fun e => by rw [e, hx] at h; cases h

theorem list_nil : MainList cfg .nil := by
  intro st opn endT rest _ ht _
  rw [list_empty endT.type st (by rw [peek_of_toks ht])]
  rfl

theorem list_cons (hc : BaseCfg cfg) (e : SE) (es : SEList) (hw : e.wf = true) (ihe : Main cfg e) (ihl : LoopInv cfg es) :
    MainList cfg (.cons e es) := by
  intro st opn endT rest hr ht hend
  obtain ⟨a, as, has, hpre⟩ := head_prefix e hw
  have ht' : st.toks = opn :: (e.toks ++ (es.ctoks ++ endT :: rest)) := by rw [ht]; simp [SEList.toks]
  have hpeek : st.peek = a := by rw [has] at ht'; exact peek_of_toks ht'
  have hn : st.next.toks = e.toks ++ (es.ctoks ++ endT :: rest) := next_toks ht' (by simp [toks_ne_nil])
  have hp1 : precOf cfg endT.type ≤ 1 := by
    rcases hend with h | h <;> rw [h, precOf_base hc] <;> decide
  have hc1 : endT.type ≠ .comma := by rcases hend with h | h <;> rw [h] <;> decide
  obtain ⟨lastE, hl⟩ := toks_after (toks_ne_nil e) hn
  have e2 := ihl (.cons e.tree .nil) _ lastE endT rest hr hl hc1 hp1
  -- the cursor in front of the closing token
  have hpk : (nextK es.ctoks.length (nextK (e.toks.length - 1) st.next)).peek = endT :=
    peek_after (ts := lastE :: es.ctoks) (List.cons_ne_nil _ _) hl
  rw [list_nonempty endT.type st (by
      rw [hpeek]; rcases hend with h | h <;> rw [h] <;> exact prefix_ne hpre (by decide)),
    eval_lowest hc e hw ihe _ _ hn (stops_ctoks hc es endT rest hp1)]
  simp only [Option.bind_eq_bind, Option.bind_some, e2, expect_ok (congrArg Token.type hpk), if_true]
  congr 2
  have := toks_len_pos e
  simp only [next_eq, nextK_nextK, SEList.toks, List.length_append]
  exact nextK_congr (by omega) _

/-- `ParseFunctionParameters` from the `(` to the `)` -/
theorem params_rt (ps : List Token) (hps : ps.all isIdentTok = true) (st : PS) (opn : Token) (rest : List Token)
    (ht : st.toks = opn :: (paramToks ps ++ rpT :: rest)) :
    parseFunctionParameters st = some (ps.map identOf, nextK ((paramToks ps).length + 1) st) := by
  unfold parseFunctionParameters
  cases ps with
  | nil =>
    have : (st.peek.type == TokType.rparen) = true := by rw [peek_of_toks ht]; rfl
    simp [this, paramToks, nextK]
  | cons p ps =>
    rw [paramToks_cons] at ht ⊢
    have hp : p.type = .ident := by
      simp only [List.all_cons, Bool.and_eq_true] at hps
      simpa [isIdentTok] using hps.1
    have : (st.peek.type == TokType.rparen) = false := by rw [peek_of_toks ht, hp]; rfl
    simp only [this, Bool.false_eq_true, if_false]
    have h1 : st.next.toks = p :: (cparamToks ps ++ rpT :: rest) := next_toks_cons ht
    rw [params_loop ps [identOfCur st.next] st.next p rpT rest h1 (by decide), identOfCur_of_toks h1]
    simp only [Option.bind_eq_bind, Option.bind_some]
    have hpk : (nextK (cparamToks ps).length st.next).peek = rpT :=
      peek_after (ts := p :: cparamToks ps) (List.cons_ne_nil _ _) h1
    simp only [expect_ok (ty := .rparen) (by rw [hpk]; rfl), if_true, List.singleton_append, List.map_cons]
    congr 2
    simp only [next_eq, nextK_nextK, List.length_cons]
    exact nextK_congr (by omega) _

end Xjs.RA
