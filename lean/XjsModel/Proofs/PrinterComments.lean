import XjsModel.Proofs.PrinterCompact
import XjsModel.Spec.Comments
import XjsModel.Spec.TreeShape
/-
  The comment inventory of the pretty printer (C15): the comment entries handed to `WriteLeadingComments`, in order,
  are exactly the comment entries of the tree's tokens in source order — each one once, none invented, none dropped.
  (`clog` is a ghost field of the writer model; what `WriteLeadingComments` does with an entry is `commentsLoop`:
  the entry's text is appended verbatim behind `//`.)
-/
namespace Xjs

@[simp] theorem clog_mapAdvance (cw : CW) (f : Mapper → Mapper) : (cw.mapAdvance f).clog = cw.clog := by
  rw [mapAdvance_eq]
@[simp] theorem clog_panic (cw : CW) : cw.panic.clog = cw.clog := rfl
@[simp] theorem clog_rawIndent (cw : CW) : cw.rawIndent.clog = cw.clog := rfl
@[simp] theorem clog_flushPending (cw : CW) : cw.flushPending.clog = cw.clog := by
  rw [flushPending_eq]
@[simp] theorem clog_writeString (cw : CW) (s : Bytes) : (cw.writeString s).clog = cw.clog := by
  rw [writeString_eq]
@[simp] theorem clog_writeRune (cw : CW) (r : Nat) : (cw.writeRune r).clog = cw.clog := by
  rw [writeRune_eq]
@[simp] theorem clog_writeSemi (cw : CW) : cw.writeSemi.clog = cw.clog := by
  unfold CW.writeSemi; split <;> (try split) <;> simp
@[simp] theorem clog_separateSigns (cw : CW) (op : Bytes) : (cw.separateSigns op).clog = cw.clog := by
  unfold CW.separateSigns
  split
  · rfl
  · split
    · rfl
    · simp only []
      split <;> simp
@[simp] theorem clog_increaseIndent (cw : CW) : cw.increaseIndent.clog = cw.clog := by
  unfold CW.increaseIndent; split <;> rfl
@[simp] theorem clog_decreaseIndent (cw : CW) : cw.decreaseIndent.clog = cw.clog := by
  unfold CW.decreaseIndent; split <;> rfl
@[simp] theorem clog_writeIndent (cw : CW) : cw.writeIndent.clog = cw.clog := by
  unfold CW.writeIndent; split <;> (try split) <;> rfl
@[simp] theorem clog_writeNewline (cw : CW) : cw.writeNewline.clog = cw.clog := by
  unfold CW.writeNewline; split <;> rfl
@[simp] theorem clog_writeSpace (cw : CW) : cw.writeSpace.clog = cw.clog := by
  unfold CW.writeSpace; split <;> (try split) <;> rfl
@[simp] theorem clog_addMapping (cw : CW) (a b : Nat) : (cw.addMapping a b).clog = cw.clog := by simp [CW.addMapping]
@[simp] theorem clog_addNamedMapping (cw : CW) (a b : Nat) (n : Bytes) : (cw.addNamedMapping a b n).clog = cw.clog := by
  simp [CW.addNamedMapping]


/-- what `WriteLeadingComments` records: in pretty mode exactly the entries it was given, in compact mode nothing -/
@[simp] theorem clog_leadingComments (cw : CW) (cs : List Bytes) :
    (cw.leadingComments cs).clog = if cw.pretty = true then cw.clog ++ cs else cw.clog := by
  rw [leadingComments_eq]
  cases cw.pretty <;> cases cs <;> simp

@[simp] theorem clog_head (cw : CW) (t : Token) :
    (cw.head t).clog = if cw.pretty = true then cw.clog ++ t.comments else cw.clog := by
  simp [CW.head]

@[simp] theorem clog_sepIf (cw : CW) (b : Bool) : (cw.sepIf b).clog = cw.clog := by unfold CW.sepIf; split <;> simp
@[simp] theorem clog_newlineIf (cw : CW) (b : Bool) : (cw.newlineIf b).clog = cw.clog := by unfold CW.newlineIf; split <;> simp
@[simp] theorem clog_openIf (cw : CW) (b : Bool) : (cw.openIf b).clog = cw.clog := by unfold CW.openIf; split <;> simp
@[simp] theorem clog_closeIf (cw : CW) (b : Bool) : (cw.closeIf b).clog = cw.clog := by unfold CW.closeIf; split <;> simp

@[simp] theorem clog_writeIdent (id : Ident) (cw : CW) :
    (writeIdent id cw).clog = if cw.pretty = true then cw.clog ++ identCmts id else cw.clog := by
  simp [writeIdent, identCmts]

@[simp] theorem clog_writeParams (ps : List Ident) (first : Bool) (cw : CW) :
    (writeParams ps first cw).clog = if cw.pretty = true then cw.clog ++ identsCmts ps else cw.clog := by
  induction ps generalizing cw first with
  | nil => simp [writeParams, identsCmts]
  | cons p rest ih => cases hp : cw.pretty <;> simp [writeParams, ih, identsCmts, hp]

theorem Expr.cmts_of_isNone {e : Expr} (h : e.isNone = true) : e.cmts = [] := by
  cases e <;> simp_all [Expr.isNone, Expr.cmts]
theorem Stmt.cmts_of_isNone {s : Stmt} (h : s.isNone = true) : s.cmts = [] := by
  cases s <;> simp_all [Stmt.isNone, Stmt.cmts]

attribute [local simp] Expr.complete_not_none Stmt.complete_not_none Expr.cmts_of_isNone Stmt.cmts_of_isNone

mutual
  /-- in pretty mode the printer hands the comment entries of a complete tree to `WriteLeadingComments` exactly once
      each, in source order -/
  theorem clog_writeExpr : ∀ (e : Expr) (cw : CW), cw.pretty = true → e.complete = true →
      (writeExpr e cw).clog = cw.clog ++ e.cmts
    | .none, cw, _, hc => by simp [Expr.complete] at hc
    | .ident id, cw, hp, _ => by simp [writeExpr, Expr.cmts, hp]
    | .int tok, cw, hp, _ => by simp [writeExpr, Expr.cmts, hp]
    | .float tok, cw, hp, _ => by simp [writeExpr, Expr.cmts, hp]
    | .str tok v, cw, hp, _ => by simp [writeExpr, Expr.cmts, hp]
    | .raw tok v, cw, hp, _ => by simp [writeExpr, Expr.cmts, hp]
    | .bool tok b, cw, hp, _ => by simp [writeExpr, Expr.cmts, hp]
    | .null tok, cw, hp, _ => by simp [writeExpr, Expr.cmts, hp]
    | .letE tok name v, cw, hp, hc => by
      simp only [Expr.complete, Bool.or_eq_true] at hc
      rcases hc with h | h <;> simp [writeExpr, Expr.cmts, h, clog_writeExpr v, hp]
    | .binary tok l op r, cw, hp, hc => by
      simp only [Expr.complete, Bool.and_eq_true] at hc
      simp [writeExpr, Expr.cmts, hc, clog_writeExpr l, clog_writeExpr r, hp]
    | .unary tok op r, cw, hp, hc => by
      simp only [Expr.complete] at hc
      simp [writeExpr, Expr.cmts, hc, apply_ite CW.clog, apply_ite CW.pretty, clog_writeExpr r, hp]
    | .postfix tok l op, cw, hp, hc => by
      simp only [Expr.complete] at hc
      simp [writeExpr, Expr.cmts, hc, clog_writeExpr l, hp]
    | .group tok e rp, cw, hp, hc => by
      simp only [Expr.complete] at hc
      simp [writeExpr, Expr.cmts, hc, clog_writeExpr e, hp]
    | .call tok fn args, cw, hp, hc => by
      simp only [Expr.complete, Bool.and_eq_true] at hc
      simp [writeExpr, Expr.cmts, hc, clog_writeExpr fn, clog_writeExprList args, hp]
    | .member tok obj prop c, cw, hp, hc => by
      simp only [Expr.complete, Bool.and_eq_true] at hc
      simp [writeExpr, Expr.cmts, hc, apply_ite CW.clog, apply_ite CW.pretty, clog_writeExpr obj, clog_writeExpr prop, hp]
    | .assign tok l v, cw, hp, hc => by
      simp only [Expr.complete, Bool.and_eq_true] at hc
      simp [writeExpr, Expr.cmts, hc, clog_writeExpr l, clog_writeExpr v, hp]
    | .compound tok l op v, cw, hp, hc => by
      simp only [Expr.complete, Bool.and_eq_true] at hc
      simp [writeExpr, Expr.cmts, hc, clog_writeExpr l, clog_writeExpr v, hp]
    | .func tok name params body, cw, hp, hc => by
      simp only [Expr.complete] at hc
      cases name <;> simp [writeExpr, Expr.cmts, hc, clog_writeStmt body, hp]
    | .array tok elems rb, cw, hp, hc => by
      simp only [Expr.complete] at hc
      simp [writeExpr, Expr.cmts, hc, clog_writeExprList elems, hp]
    | .object tok props rb, cw, hp, hc => by
      simp only [Expr.complete] at hc
      simp [writeExpr, Expr.cmts, hc, clog_writeProps props, hp]
  theorem clog_writeExprList : ∀ (es : ExprList) (first : Bool) (cw : CW), cw.pretty = true → es.complete = true →
      (writeExprList es first cw).clog = cw.clog ++ es.cmts
    | .nil, _, cw, _, _ => by simp [writeExprList, ExprList.cmts]
    | .cons e rest, first, cw, hp, hc => by
      simp only [ExprList.complete, Bool.and_eq_true] at hc
      simp [writeExprList, ExprList.cmts, hc, clog_writeExprList rest, clog_writeExpr e, hp]
  theorem clog_writeProps : ∀ (ps : PropList) (first : Bool) (cw : CW), cw.pretty = true → ps.complete = true →
      (writeProps ps first cw).clog = cw.clog ++ ps.cmts
    | .nil, _, cw, _, _ => by simp [writeProps, PropList.cmts]
    | .cons k v rest, first, cw, hp, hc => by
      simp only [PropList.complete, Bool.and_eq_true] at hc
      simp [writeProps, PropList.cmts, hc, clog_writeProps rest, clog_writeExpr v, clog_writeExpr k, hp]
  theorem clog_writeStmt : ∀ (s : Stmt) (cw : CW), cw.pretty = true → s.complete = true →
      (writeStmt s cw).clog = cw.clog ++ s.cmts
    | .none, cw, _, hc => by simp [Stmt.complete] at hc
    | .letS tok name v, cw, hp, hc => by
      simp only [Stmt.complete, Bool.or_eq_true] at hc
      rcases hc with h | h <;> simp [writeStmt, Stmt.cmts, h, clog_writeExpr v, hp]
    | .ret tok v, cw, hp, hc => by
      simp only [Stmt.complete, Bool.or_eq_true] at hc
      rcases hc with h | h <;> simp [writeStmt, Stmt.cmts, h, clog_writeExpr v, hp]
    | .exprS e, cw, hp, hc => by
      simp only [Stmt.complete] at hc
      simp [writeStmt, Stmt.cmts, hc, clog_writeExpr e, hp]
    | .funcD tok name params body, cw, hp, hc => by
      simp only [Stmt.complete] at hc
      simp [writeStmt, Stmt.cmts, hc, clog_writeStmt body, hp]
    | .block tok stmts rb, cw, hp, hc => by
      simp only [Stmt.complete] at hc
      simp [writeStmt, Stmt.cmts, hc, clog_writeBlockStmts stmts, hp]
    | .ifS tok c a b, cw, hp, hc => by
      simp only [Stmt.complete, Bool.and_eq_true, Bool.or_eq_true] at hc
      rcases hc.2 with h | h <;> simp [writeStmt, Stmt.cmts, hc.1, h, clog_writeExpr c, clog_writeStmt a, clog_writeStmt b, hp]
    | .whileS tok c b, cw, hp, hc => by
      simp only [Stmt.complete, Bool.and_eq_true] at hc
      simp [writeStmt, Stmt.cmts, hc, clog_writeExpr c, clog_writeStmt b, hp]
    | .forS tok i c u b, cw, hp, hc => by
      simp only [Stmt.complete, Bool.and_eq_true, Bool.or_eq_true] at hc
      obtain ⟨⟨⟨hi, hcc⟩, hu⟩, hb⟩ := hc
      rcases hi with hi | hi <;> rcases hcc with hcc | hcc <;> rcases hu with hu | hu <;>
        simp [writeStmt, Stmt.cmts, hi, hcc, hu, hb, clog_writeExpr i, clog_writeExpr c, clog_writeExpr u, clog_writeStmt b, hp]
  theorem clog_writeBlockStmts : ∀ (ss : StmtList) (first : Bool) (cw : CW), cw.pretty = true → ss.complete = true →
      (writeBlockStmts ss first cw).clog = cw.clog ++ ss.cmts
    | .nil, _, cw, _, _ => by simp [writeBlockStmts, StmtList.cmts]
    | .cons s rest, first, cw, hp, hc => by
      simp only [StmtList.complete, Bool.and_eq_true] at hc
      simp [writeBlockStmts, StmtList.cmts, hc, clog_writeBlockStmts rest, clog_writeStmt s, hp]
  theorem clog_writeProgramStmts : ∀ (ss : StmtList) (first : Bool) (cw : CW), cw.pretty = true → ss.complete = true →
      (writeProgramStmts ss first cw).clog = cw.clog ++ ss.cmts
    | .nil, _, cw, _, _ => by simp [writeProgramStmts, StmtList.cmts]
    | .cons s rest, first, cw, hp, hc => by
      simp only [StmtList.complete, Bool.and_eq_true] at hc
      simp [writeProgramStmts, StmtList.cmts, hc, clog_writeProgramStmts rest, clog_writeStmt s, hp]
end

mutual
  /-- in compact mode no comment entry is ever written -/
  theorem clog_c_writeExpr : ∀ (e : Expr) (cw : CW), cw.pretty = false → (writeExpr e cw).clog = cw.clog
    | .none, cw, hp => by simp [writeExpr]
    | .ident id, cw, hp => by simp [writeExpr, hp]
    | .int tok, cw, hp => by simp [writeExpr, hp]
    | .float tok, cw, hp => by simp [writeExpr, hp]
    | .str tok v, cw, hp => by simp [writeExpr, hp]
    | .raw tok v, cw, hp => by simp [writeExpr, hp]
    | .bool tok b, cw, hp => by simp [writeExpr, hp]
    | .null tok, cw, hp => by simp [writeExpr, hp]
    | .letE tok name v, cw, hp => by simp [writeExpr, apply_ite CW.clog, clog_c_writeExpr v, hp]
    | .binary tok l op r, cw, hp => by simp [writeExpr, apply_ite CW.clog, clog_c_writeExpr l, clog_c_writeExpr r, hp]
    | .unary tok op r, cw, hp => by
      simp [writeExpr, apply_ite CW.clog, apply_ite CW.pretty, clog_c_writeExpr r, hp]
    | .postfix tok l op, cw, hp => by simp [writeExpr, apply_ite CW.clog, clog_c_writeExpr l, hp]
    | .group tok e rp, cw, hp => by simp [writeExpr, clog_c_writeExpr e, hp]
    | .call tok fn args, cw, hp => by simp [writeExpr, clog_c_writeExpr fn, clog_c_writeExprList args, hp]
    | .member tok obj prop c, cw, hp => by
      simp [writeExpr, apply_ite CW.clog, apply_ite CW.pretty, clog_c_writeExpr obj, clog_c_writeExpr prop, hp]
    | .assign tok l v, cw, hp => by simp [writeExpr, clog_c_writeExpr l, clog_c_writeExpr v, hp]
    | .compound tok l op v, cw, hp => by simp [writeExpr, clog_c_writeExpr l, clog_c_writeExpr v, hp]
    | .func tok name params body, cw, hp => by cases name <;> simp [writeExpr, clog_c_writeStmt body, hp]
    | .array tok elems rb, cw, hp => by simp [writeExpr, clog_c_writeExprList elems, hp]
    | .object tok props rb, cw, hp => by simp [writeExpr, clog_c_writeProps props, hp]
  theorem clog_c_writeExprList : ∀ (es : ExprList) (first : Bool) (cw : CW), cw.pretty = false → (writeExprList es first cw).clog = cw.clog
    | .nil, _, cw, _ => by simp [writeExprList]
    | .cons e rest, first, cw, hp => by simp [writeExprList, clog_c_writeExprList rest, clog_c_writeExpr e, hp]
  theorem clog_c_writeProps : ∀ (ps : PropList) (first : Bool) (cw : CW), cw.pretty = false → (writeProps ps first cw).clog = cw.clog
    | .nil, _, cw, _ => by simp [writeProps]
    | .cons k v rest, first, cw, hp => by
      simp [writeProps, clog_c_writeProps rest, clog_c_writeExpr v, clog_c_writeExpr k, hp]
  theorem clog_c_writeStmt : ∀ (s : Stmt) (cw : CW), cw.pretty = false → (writeStmt s cw).clog = cw.clog
    | .none, cw, hp => by simp [writeStmt]
    | .letS tok name v, cw, hp => by simp [writeStmt, apply_ite CW.clog, clog_c_writeExpr v, hp]
    | .ret tok v, cw, hp => by simp [writeStmt, apply_ite CW.clog, clog_c_writeExpr v, hp]
    | .exprS e, cw, hp => by simp [writeStmt, apply_ite CW.clog, clog_c_writeExpr e, hp]
    | .funcD tok name params body, cw, hp => by simp [writeStmt, clog_c_writeStmt body, hp]
    | .block tok stmts rb, cw, hp => by simp [writeStmt, clog_c_writeBlockStmts stmts, hp]
    | .ifS tok c a b, cw, hp => by
      simp [writeStmt, apply_ite CW.clog, clog_c_writeExpr c, clog_c_writeStmt a, clog_c_writeStmt b, hp]
    | .whileS tok c b, cw, hp => by simp [writeStmt, clog_c_writeExpr c, clog_c_writeStmt b, hp]
    | .forS tok i c u b, cw, hp => by
      simp [writeStmt, apply_ite CW.clog, apply_ite CW.pretty, clog_c_writeExpr i, clog_c_writeExpr c, clog_c_writeExpr u,
        clog_c_writeStmt b, hp]
  theorem clog_c_writeBlockStmts : ∀ (ss : StmtList) (first : Bool) (cw : CW), cw.pretty = false → (writeBlockStmts ss first cw).clog = cw.clog
    | .nil, _, cw, _ => by simp [writeBlockStmts]
    | .cons s rest, first, cw, hp => by simp [writeBlockStmts, clog_c_writeBlockStmts rest, clog_c_writeStmt s, hp]
  theorem clog_c_writeProgramStmts : ∀ (ss : StmtList) (first : Bool) (cw : CW), cw.pretty = false → (writeProgramStmts ss first cw).clog = cw.clog
    | .nil, _, cw, _ => by simp [writeProgramStmts]
    | .cons s rest, first, cw, hp => by simp [writeProgramStmts, clog_c_writeProgramStmts rest, clog_c_writeStmt s, hp]
end

/-- one call of `WriteLeadingComments` in pretty mode: the entries go to the output verbatim and to the ghost log in
    the same step, and the code that follows starts on a fresh indented line -/
theorem leadingComments_pretty (cw : CW) (cs : List Bytes) (hp : cw.pretty = true) (hne : cs ≠ []) :
    (cw.leadingComments cs).out = cw.out ++ commentText (List.replicate cw.indentLevel cw.indentUnit).flatten cs true ∧
    (cw.leadingComments cs).pendings = [10, 9] ∧ (cw.leadingComments cs).clog = cw.clog ++ cs := by
  rw [leadingComments_eq, if_pos ⟨hp, hne⟩]
  exact ⟨rfl, rfl, rfl⟩

end Xjs
