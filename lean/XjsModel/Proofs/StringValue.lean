import XjsModel.Model.Lexer
import XjsModel.Spec.StringValue
import XjsModel.Proofs.Utf8Enc
/-
  The lexer's `readString` keeps the value of every string literal: the token value, written between double quotes
  (what the printer does), denotes the same item sequence as the source body between its own delimiters.
  Induction over the derivation of the specification relation `SVR`.
-/
namespace Xjs.SVP
open Xjs Xjs.Spec

theorem hexDigit_model {c a : Nat} (h : hexDigit c = some a) : isHexDigit c = true ∧ hexVal c = a ∧ a < 16 := by
  unfold hexDigit at h
  unfold isHexDigit hexVal
  by_cases h1 : 48 ≤ c ∧ c ≤ 57
  · rw [if_pos h1] at h ⊢; cases h; exact ⟨by simp [h1.1, h1.2], rfl, by omega⟩
  · rw [if_neg h1] at h ⊢
    by_cases h2 : 97 ≤ c ∧ c ≤ 102
    · rw [if_pos h2] at h ⊢; cases h
      exact ⟨by simp [h2.1, h2.2], by omega, by omega⟩
    · rw [if_neg h2] at h ⊢
      by_cases h3 : 65 ≤ c ∧ c ≤ 70
      · rw [if_pos h3] at h ⊢; cases h
        exact ⟨by simp [h3.1, h3.2], by omega, by omega⟩
      · rw [if_neg h3] at h; cases h

/-- raw bytes that are no quote, backslash or line terminator denote themselves -/
theorem raw_bytes (bs : Bytes) (X : Bytes) (is : List Item)
    (h : ∀ b ∈ bs, b ≠ 34 ∧ b ≠ 92 ∧ b ≠ 10 ∧ b ≠ 13) (hX : SVR 34 X is) : SVR 34 (bs ++ X) (bs.map .byte ++ is) := by
  induction bs with
  | nil => exact hX
  | cons b bs ih =>
    have hb := h b (by simp)
    exact .raw b _ _ hb.1 hb.2.1 hb.2.2.1 hb.2.2.2 (ih (fun x hx => h x (by simp [hx])))

/-- a decoded code point, written as its UTF-8 bytes, denotes what the escape denoted -/
theorem decoded_items (v : Nat) (hv : v ≤ 0x10FFFF) (hk : keepEscaped v = false) (X : Bytes) (is : List Item)
    (hX : SVR 34 X is) : SVR 34 (encodeUTF8 v ++ X) (cpItems v ++ is) := by
  have hs : ¬ (0xD800 ≤ v ∧ v ≤ 0xDFFF) := by
    intro h; rw [C07.surrogates_stay_escaped v h] at hk; cases hk
  have hh := C07.decoded_escape_is_harmless v hv hk
  have he := C07.encodeUTF8_is_utf8 v hv
  unfold cpItems; rw [if_neg hs, ← he]
  refine raw_bytes _ _ _ ?_ hX
  intro b hb
  have := hh b hb
  unfold C07.structural at this
  simp only [Bool.or_eq_false_iff, beq_eq_false_iff_ne, ne_eq] at this
  exact ⟨this.1.1.1.1, this.1.1.1.2, this.1.1.2, this.1.2⟩

/-- the first byte after a rewrite step: unchanged, or neither a line feed nor a decimal digit -/
def HeadOk (out body : Bytes) : Prop :=
  out.headD 0 = body.headD 0 ∨ (out.headD 0 ≠ 10 ∧ isDecimalDigit (out.headD 0) = false)

/-- … and starts neither with a line feed nor with a decimal digit -/
theorem decoded_head (v : Nat) (hv : v ≤ 0x10FFFF) (hk : keepEscaped v = false) (X body : Bytes) :
    HeadOk (encodeUTF8 v ++ X) body := by
  have hh := C07.decoded_escape_is_harmless v hv hk
  have he := C07.encodeUTF8_is_utf8 v hv
  have hne : encodeUTF8 v ≠ [] := by rw [he]; unfold utf8Encode; split <;> (try split) <;> (try split) <;> simp
  obtain ⟨b, bs, hb⟩ := List.exists_cons_of_ne_nil hne
  have := hh b (by rw [hb]; simp)
  rw [hb]
  unfold C07.structural at this
  simp only [Bool.or_eq_false_iff, beq_eq_false_iff_ne, ne_eq] at this
  right
  exact ⟨by simpa using this.1.1.2, by simpa [isDecimalDigit] using this.2⟩

theorem headOk_same (c : Nat) (X Y : Bytes) : HeadOk (c :: X) (c :: Y) := Or.inl rfl

/-! ### one step of `readString` on each shape of input -/

theorem step_end (d f : Nat) (rest acc : Bytes) (n : Nat) (h0 : d ≠ 0) (h92 : d ≠ 92) :
    scanString d (f + 1) (d :: rest) acc n = (acc, n) := by
  simp [scanString, h0, h92]

theorem step_raw (d f c : Nat) (r acc : Bytes) (n : Nat) (h0 : c ≠ 0) (h92 : c ≠ 92) (hd : c ≠ d) :
    scanString d (f + 1) (c :: r) acc n = scanString d f r (acc ++ (if c == 34 then [92, c] else [c])) (n + 1) := by
  simp [scanString, h0, h92, hd]

theorem step_esc (d f e : Nat) (r acc : Bytes) (n : Nat) (hx : e ≠ 120) (hu : e ≠ 117) :
    scanString d (f + 1) (92 :: e :: r) acc n = scanString d f r (acc ++ [92, e]) (n + 2) := by
  simp [scanString, hx, hu]

theorem step_hex (d f h1 h2 : Nat) (r acc : Bytes) (n : Nat) (a1 : isHexDigit h1 = true) (a2 : isHexDigit h2 = true) :
    scanString d (f + 1) (92 :: 120 :: h1 :: h2 :: r) acc n =
      scanString d f r (acc ++ (if keepEscaped (hexVal h1 * 16 + hexVal h2) then [92, 120, h1, h2]
        else encodeUTF8 (hexVal h1 * 16 + hexVal h2))) (n + 4) := by
  simp [scanString, a1, a2]

theorem step_u4 (d f h1 h2 h3 h4 : Nat) (r acc : Bytes) (n : Nat) (a1 : isHexDigit h1 = true) (a2 : isHexDigit h2 = true)
    (a3 : isHexDigit h3 = true) (a4 : isHexDigit h4 = true) :
    scanString d (f + 1) (92 :: 117 :: h1 :: h2 :: h3 :: h4 :: r) acc n =
      scanString d f r (acc ++ (if keepEscaped (hexVal h1 * 4096 + hexVal h2 * 256 + hexVal h3 * 16 + hexVal h4)
        then [92, 117, h1, h2, h3, h4]
        else encodeUTF8 (hexVal h1 * 4096 + hexVal h2 * 256 + hexVal h3 * 16 + hexVal h4))) (n + 6) := by
  have hb : (h1 == 123) = false := by
    unfold isHexDigit at a1
    simp only [Bool.or_eq_true, Bool.and_eq_true, decide_eq_true_eq] at a1
    simp; omega
  simp [scanString, a1, a2, a3, a4, hb]

theorem braceDigits (ds : Bytes) (hds : ∀ c ∈ ds, isHexDigit c = true) :
    ∀ (fuel : Nat) (acc r : Bytes), ds.length < fuel → acc.length + ds.length ≤ 6 →
      scanBraceDigits fuel (ds ++ 125 :: r) acc = (acc ++ ds, true, ds.length + 1) := by
  induction ds with
  | nil =>
    intro fuel acc r hf _
    cases fuel with
    | zero => omega
    | succ f => simp [scanBraceDigits]
  | cons c ds ih =>
    intro fuel acc r hf hl
    cases fuel with
    | zero => omega
    | succ f =>
      have hc := hds c (by simp)
      have hne : (c == 125) = false := by
        unfold isHexDigit at hc
        simp only [Bool.or_eq_true, Bool.and_eq_true, decide_eq_true_eq] at hc
        simp; omega
      have hlen : ¬ (6 ≤ acc.length) := by simp at hl; omega
      simp only [List.cons_append, scanBraceDigits, hne, Bool.false_eq_true, if_false, hc, Bool.not_true, Bool.false_or,
        decide_eq_true_eq, ge_iff_le, hlen]
      rw [ih (fun x hx => hds x (by simp [hx])) f (acc ++ [c]) r (by simp at hf; omega) (by simp at hl ⊢; omega)]
      simp

theorem hexNumber_model (ds : Bytes) : ∀ (v a : Nat),
    ds.foldl (fun acc d => acc.bind fun a => (hexDigit d).map fun x => a * 16 + x) (some a) = some v →
    (∀ c ∈ ds, isHexDigit c = true) ∧ ds.foldl (fun v d => v * 16 + hexVal d) a = v := by
  induction ds with
  | nil => intro v a h; simp at h; subst h; simp
  | cons c ds ih =>
    intro v a h
    simp only [List.foldl_cons, Option.bind_some] at h
    cases hc : hexDigit c with
    | none =>
      rw [hc] at h
      simp only [Option.map_none] at h
      have : ∀ (l : Bytes), l.foldl (fun acc d => acc.bind fun a => (hexDigit d).map fun x => a * 16 + x) none = none := by
        intro l; induction l with
        | nil => rfl
        | cons x l ih => simp [ih]
      rw [this] at h; cases h
    | some x =>
      rw [hc] at h
      simp only [Option.map_some] at h
      obtain ⟨h1, h2⟩ := ih v _ h
      have hm := hexDigit_model hc
      refine ⟨?_, ?_⟩
      · intro y hy
        simp only [List.mem_cons] at hy
        rcases hy with rfl | hy
        · exact hm.1
        · exact h1 y hy
      · simp only [List.foldl_cons, hm.2]; exact h2

theorem step_ub (d f : Nat) (ds r acc : Bytes) (n : Nat) (hds : ∀ c ∈ ds, isHexDigit c = true) (h1 : ds ≠ [])
    (h6 : ds.length ≤ 6) (hv : hexValue ds ≤ 0x10FFFF) :
    scanString d (f + 1) ((92 :: 117 :: 123 :: ds ++ [125]) ++ r) acc n =
      scanString d f r (acc ++ (if keepEscaped (hexValue ds) then 92 :: 117 :: 123 :: ds ++ [125] else encodeUTF8 (hexValue ds)))
        (n + (92 :: 117 :: 123 :: ds ++ [125]).length) := by
  have e : (92 :: 117 :: 123 :: ds ++ [125]) ++ r = 92 :: 117 :: 123 :: (ds ++ 125 :: r) := by simp
  have el : n + (92 :: 117 :: 123 :: ds ++ [125]).length = n + 3 + (ds.length + 1) := by simp; omega
  rw [e, el]
  have hb : ∀ fuel, ds.length < fuel → scanBraceDigits fuel (ds ++ 125 :: r) [] = (ds, true, ds.length + 1) := by
    intro fuel hf
    have := braceDigits ds hds fuel [] r hf (by simpa using h6)
    simpa using this
  have hl : ¬ (ds.length = 0) := by
    intro h; exact h1 (List.eq_nil_of_length_eq_zero h)
  have hl6 : ¬ (6 < ds.length) := by omega
  have hvv : ¬ (0x10FFFF < hexValue ds) := Nat.not_lt.mpr hv
  have hd : List.drop (ds.length + 1) (ds ++ 125 :: r) = r := by
    rw [List.drop_append]
    simp
  simp only [List.cons_append, scanString]
  simp only [beq_self_eq_true, if_true, List.headD_cons, List.drop_succ_cons, List.drop_zero,
    show (92 == 0) = false by decide, show (117 == 120) = false by decide, Bool.false_eq_true, if_false]
  rw [hb _ (by simp; omega)]
  have hd' : List.drop (1 + (ds.length + 1)) (123 :: (ds ++ 125 :: r)) = r := by
    rw [show 1 + (ds.length + 1) = (ds.length + 1) + 1 by omega, List.drop_succ_cons]; exact hd
  simp only [Bool.not_true, Bool.false_or, gt_iff_lt, hl6, decide_false, if_false, hvv, hd']
  split
  · rename_i h; simp [hl] at h
  · split <;> simp_all

/-! ### the induction -/

/-- what `readString` does on a body followed by its closing delimiter: it consumes exactly the body, and the value
    it returns, read as the body of a double-quoted literal, denotes the same items -/
def Good (d : Nat) (body : Bytes) (items : List Item) : Prop :=
  ∀ (rest : Bytes) (fuel : Nat) (acc : Bytes) (n : Nat), body.length < fuel →
    ∃ out, scanString d fuel (body ++ d :: rest) acc n = (acc ++ out, n + body.length) ∧ SVR 34 out items ∧ HeadOk out body

theorem good_of_step {d : Nat} {chunk r : Bytes} {is_c is : List Item} (outc : Bytes) (hne : chunk ≠ [])
    (hr : Good d r is)
    (hstep : ∀ (rest : Bytes) (f : Nat) (acc : Bytes) (n : Nat),
      scanString d (f + 1) (chunk ++ (r ++ d :: rest)) acc n = scanString d f (r ++ d :: rest) (acc ++ outc) (n + chunk.length))
    (hsv : ∀ X isX, SVR 34 X isX → HeadOk X r → SVR 34 (outc ++ X) (is_c ++ isX))
    (hdig : ∀ X, HeadOk (outc ++ X) (chunk ++ r)) :
    Good d (chunk ++ r) (is_c ++ is) := by
  intro rest fuel acc n hf
  have hl : 1 ≤ chunk.length := by cases chunk with | nil => exact absurd rfl hne | cons _ _ => simp
  cases fuel with
  | zero => omega
  | succ f =>
    obtain ⟨out, h1, h2, h3⟩ := hr rest f (acc ++ outc) (n + chunk.length) (by simp at hf; omega)
    refine ⟨outc ++ out, ?_, hsv out is h2 h3, hdig out⟩
    rw [List.append_assoc, hstep, h1]
    simp [Nat.add_assoc]

theorem good_nil (d : Nat) (h0 : d ≠ 0) (h92 : d ≠ 92) : Good d [] [] := by
  intro rest fuel acc n hf
  cases fuel with
  | zero => omega
  | succ f => exact ⟨[], by simp [step_end d f rest acc n h0 h92], .nil, Or.inl rfl⟩

/-- an escape pair that the lexer keeps as written -/
theorem good_esc {d e : Nat} {r : Bytes} {is_c is : List Item} (hx : e ≠ 120) (hu : e ≠ 117) (hr : Good d r is)
    (hsv : ∀ X isX, SVR 34 X isX → HeadOk X r → SVR 34 (92 :: e :: X) (is_c ++ isX)) :
    Good d (92 :: e :: r) (is_c ++ is) :=
  good_of_step (chunk := [92, e]) [92, e] (by simp) hr
    (by intro rest f acc n; exact step_esc d f e (r ++ d :: rest) acc n hx hu)
    hsv (fun _ => Or.inl rfl)

/-- an escape `chunk` that denotes the code point `v`: kept as written, or replaced by the UTF-8 bytes of `v` -/
theorem good_cp {d v : Nat} {chunk r : Bytes} {is : List Item} (hne : chunk ≠ []) (hv : v ≤ 0x10FFFF) (hr : Good d r is)
    (hstep : ∀ (rest : Bytes) (f : Nat) (acc : Bytes) (n : Nat),
      scanString d (f + 1) (chunk ++ (r ++ d :: rest)) acc n =
        scanString d f (r ++ d :: rest) (acc ++ (if keepEscaped v then chunk else encodeUTF8 v)) (n + chunk.length))
    (hkeep : ∀ X isX, SVR 34 X isX → SVR 34 (chunk ++ X) (cpItems v ++ isX)) :
    Good d (chunk ++ r) (cpItems v ++ is) := by
  refine good_of_step (if keepEscaped v then chunk else encodeUTF8 v) hne hr hstep ?_ ?_
  · intro X isX hX _
    cases hk : keepEscaped v with
    | true => exact hkeep X isX hX
    | false => exact decoded_items v hv hk X isX hX
  · intro X
    cases hk : keepEscaped v with
    | true =>
      cases chunk with
      | nil => exact absurd rfl hne
      | cons c cs => exact Or.inl rfl
    | false => exact decoded_head v hv hk X _

theorem sv_keeps_value (d : Nat) (hd : d = 34 ∨ d = 39) {body : Bytes} {items : List Item} (h : SVR d body items)
    (hnul : ∀ c ∈ body, c ≠ 0) : Good d body items := by
  have d0 : d ≠ 0 := by rcases hd with rfl | rfl <;> decide
  have d92 : d ≠ 92 := by rcases hd with rfl | rfl <;> decide
  induction h with
  | nil => exact good_nil d d0 d92
  | raw c r is hcd h92 h10 h13 _ ih =>
    have hr := ih (fun x hx => hnul x (by simp [hx]))
    have hc0 := hnul c (by simp)
    refine good_of_step (chunk := [c]) (is_c := [.byte c]) (if c == 34 then [92, c] else [c]) (by simp) hr
      (by intro rest f acc n; exact step_raw d f c (r ++ d :: rest) acc n hc0 h92 hcd) ?_ ?_
    · intro X isX hX _
      by_cases h34 : c = 34
      · subst h34; exact .ident 34 X isX (by decide) hX
      · rw [if_neg (by simpa using h34)]
        exact .raw c X isX h34 h92 h10 h13 hX
    · intro X
      by_cases h34 : c = 34
      · subst h34; exact Or.inr ⟨by simp, by simp [isDecimalDigit]⟩
      · rw [if_neg (by simpa using h34)]; exact Or.inl rfl
  | single e v r is he _ ih =>
    exact good_esc (is_c := [.byte v]) (by intro h; subst h; simp [singleEscape] at he)
      (by intro h; subst h; simp [singleEscape] at he) (ih (fun x hx => hnul x (by simp [hx])))
      (fun X isX hX _ => .single e v X isX he hX)
  | ident e r is he _ ih =>
    exact good_esc (is_c := [.byte e]) (by intro h; subst h; simp [identityEscape] at he)
      (by intro h; subst h; simp [identityEscape] at he) (ih (fun x hx => hnul x (by simp [hx])))
      (fun X isX hX _ => .ident e X isX he hX)
  | nul r is hnd _ ih =>
    refine good_esc (is_c := [.byte 0]) (by decide) (by decide) (ih (fun x hx => hnul x (by simp [hx]))) ?_
    intro X isX hX hh
    refine .nul X isX ?_ hX
    rcases hh with hh | hh
    · rw [hh]; exact hnd
    · exact hh.2
  | hex h1 h2 a b r is ha hb _ ih =>
    obtain ⟨a1, a2, a3⟩ := hexDigit_model ha
    obtain ⟨b1, b2, b3⟩ := hexDigit_model hb
    refine good_cp (chunk := [92, 120, h1, h2]) (by simp) (by omega) (ih (fun x hx => hnul x (by simp [hx]))) ?_
      (fun X isX hX => .hex h1 h2 a b X isX ha hb hX)
    intro rest f acc n
    rw [← a2, ← b2]
    exact step_hex d f h1 h2 (r ++ d :: rest) acc n a1 b1
  | u4 h1 h2 h3 h4 a b c e r is ha hb hc he _ ih =>
    obtain ⟨a1, a2, a3⟩ := hexDigit_model ha
    obtain ⟨b1, b2, b3⟩ := hexDigit_model hb
    obtain ⟨c1, c2, c3⟩ := hexDigit_model hc
    obtain ⟨e1, e2, e3⟩ := hexDigit_model he
    refine good_cp (chunk := [92, 117, h1, h2, h3, h4]) (by simp) (by omega) (ih (fun x hx => hnul x (by simp [hx]))) ?_
      (fun X isX hX => .u4 h1 h2 h3 h4 a b c e X isX ha hb hc he hX)
    intro rest f acc n
    rw [← a2, ← b2, ← c2, ← e2]
    exact step_u4 d f h1 h2 h3 h4 (r ++ d :: rest) acc n a1 b1 c1 e1
  | ubrace ds v r is hne h6 hv hle _ ih =>
    obtain ⟨hds, rfl⟩ : (∀ c ∈ ds, isHexDigit c = true) ∧ hexValue ds = v := by
      cases ds with
      | nil => exact absurd rfl hne
      | cons x xs => exact hexNumber_model (x :: xs) v 0 hv
    have := good_cp (chunk := 92 :: 117 :: 123 :: ds ++ [125]) (by simp) hle (ih (fun x hx => hnul x (by simp [hx])))
      (fun rest f acc n => step_ub d f ds (r ++ d :: rest) acc n hds hne h6 hle)
      (fun X isX hX => by simpa using SVR.ubrace ds _ X isX hne h6 hv hle hX)
    simpa using this
  | contLF r is _ ih =>
    exact good_esc (is_c := []) (by decide) (by decide) (ih (fun x hx => hnul x (by simp [hx])))
      (fun X isX hX _ => .contLF X isX hX)
  | contCRLF r is _ ih =>
    have hr := ih (fun x hx => hnul x (by simp [hx]))
    -- two steps of the lexer: the escape pair `\\` CR, then the LF as an ordinary byte
    intro rest fuel acc n hf
    cases fuel with
    | zero => omega
    | succ f =>
    cases f with
    | zero => simp at hf
    | succ f =>
      obtain ⟨out, e1, e2, e3⟩ := hr rest f (acc ++ [92, 13] ++ [10]) (n + 2 + 1) (by simp at hf; omega)
      refine ⟨92 :: 13 :: 10 :: out, ?_, .contCRLF out is e2, Or.inl rfl⟩
      have d10 : (10 : Nat) ≠ d := by rcases hd with rfl | rfl <;> decide
      have s1 := step_esc d (f + 1) 13 (10 :: (r ++ d :: rest)) acc n (by decide) (by decide)
      have s2 := step_raw d f 10 (r ++ d :: rest) (acc ++ [92, 13]) (n + 2) (by decide) (by decide) d10
      simp only [show ((10 : Nat) == 34) = false by decide, Bool.false_eq_true, if_false] at s2
      simp only [List.cons_append]
      rw [s1, s2, e1]
      simp only [List.append_assoc, List.cons_append, List.nil_append, List.length_cons, Prod.mk.injEq, true_and]
      omega
  | contCR r is hh _ ih =>
    refine good_esc (is_c := []) (by decide) (by decide) (ih (fun x hx => hnul x (by simp [hx]))) ?_
    intro X isX hX hk
    refine .contCR X isX ?_ hX
    rcases hk with hk | hk
    · rw [hk]; exact hh
    · exact hk.1

end Xjs.SVP
