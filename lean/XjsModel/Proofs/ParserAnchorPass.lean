import XjsModel.Proofs.ParserTokens
import XjsModel.Spec.Comments
/-
  Anchors (C15): a parse step that records no error returns a node whose first token — the token its comments
  travel on — is the token the parser stood on when the step began. An induction on `Parse cfg False`.
-/
namespace Xjs

/-- a statement or an expression begins at the cursor; the property loop returns a list -/
def Kind.AtCursor : (k : Kind) → PS → k.type → Prop
  | .stmt, st, s => s.firstTok = some st.cur
  | .expr, st, e => e.firstTok = some st.cur
  | .props, _, o => ∃ p, o = some p
  | _, _, _ => True

/-- where the tree that a call started in `st` returns begins, if the call records no error: what an operator loop
    returns at the operand it was handed, a clause of `for (…;…;…)`, if there, at the token after the cursor -/
def Call.Anchored : {k : Kind} → Call k → PS → k.type → Prop
  | _, .remaining left _, _, e | _, .infix left, _, e => e.firstTok = left.firstTok
  | _, .endStmt s, _, x => x.firstTok = s.firstTok
  | _, .funcTail tok _, _, e => e.firstTok = some tok
  | _, .forInit, st, e | _, .optExpr _, st, e => e.isNone = true ∨ e.firstTok = some st.peek
  | k, _, st, x => k.AtCursor st x

theorem Parse.anchored {cfg : PCfg} {k : Kind} {c : Call k} {st : PS} {x : k.type} {st' : PS}
    (h : Parse cfg False c st x st') : c.Anchored st x := by
  induction h
  any_goals (exfalso; assumption)
  case base ih => unfold stmtCall at ih; split at ih <;> exact ih
  all_goals simp_all [Call.Anchored, Kind.AtCursor, Expr.firstTok, Stmt.firstTok, Expr.isNone, next_cur]

end Xjs
