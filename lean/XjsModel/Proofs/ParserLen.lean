import XjsModel.Proofs.ParserFrame
/-
  Error counting: `st.elen` = number of errors recorded so far. Errors only grow, so a run that records none takes
  only error-free paths (`Parse.errorFree`); a statement about error-free runs is proved by induction on
  `Parse cfg False` and stated for all runs as `st.elen ≤ r.2.elen ∧ (P ∨ st.elen < r.2.elen)` — either the run has the
  property or it recorded an error (`Parse.ok_or_err`).
-/
namespace Xjs

def PS.elen (st : PS) : Nat := st.errors.length

@[simp] theorem elen_next (st : PS) : st.next.elen = st.elen := by simp [PS.elen, PS.next_errors]
@[simp] theorem elen_push (st : PS) (c : Ctx) : (st.push c).elen = st.elen := rfl
@[simp] theorem elen_pop (st : PS) : st.pop.elen = st.elen := rfl
@[simp] theorem elen_addError (st : PS) (m : Bytes) : (st.addError m).elen = st.elen + 1 := by
  simp [PS.elen, PS.addError, PS.addErrorAt]
@[simp] theorem elen_addErrorAt (st : PS) (m : Bytes) (t : Token) : (st.addErrorAt m t).elen = st.elen + 1 := by
  simp [PS.elen, PS.addErrorAt]
@[simp] theorem elen_set (st : PS) (p : Nat) (t : List Event) :
    PS.elen { st with curPrec := p, trace := t } = st.elen := rfl
@[simp] theorem elen_setPrec (st : PS) (p : Nat) : PS.elen { st with curPrec := p } = st.elen := rfl
@[simp] theorem elen_setTrace (st : PS) (t : List Event) : PS.elen { st with trace := t } = st.elen := rfl

/-- 0 if the expected token was there, 1 if an error was recorded -/
def expErr (ty : TokType) (st : PS) : Nat := if (expectToken ty st).1 then 0 else 1
def semiErr (cfg : PCfg) (st : PS) : Nat := if (expectSemiASI cfg st).1 then 0 else 1

@[simp] theorem elen_expectToken (ty : TokType) (st : PS) : (expectToken ty st).2.elen = st.elen + expErr ty st := by
  unfold expErr expectToken
  split <;> simp
@[simp] theorem elen_expectSemi (cfg : PCfg) (st : PS) : (expectSemiASI cfg st).2.elen = st.elen + semiErr cfg st := by
  unfold semiErr expectSemiASI
  split
  · simp
  · split
    · simp
    · split <;> simp

theorem expErr_of_true {ty : TokType} {st : PS} (h : (expectToken ty st).1 = true) : expErr ty st = 0 := by simp [expErr, h]
theorem expErr_of_false {ty : TokType} {st : PS} (h : (expectToken ty st).1 = false) : expErr ty st = 1 := by simp [expErr, h]
theorem semiErr_of_true {cfg : PCfg} {st : PS} (h : (expectSemiASI cfg st).1 = true) : semiErr cfg st = 0 := by simp [semiErr, h]
theorem semiErr_of_false {cfg : PCfg} {st : PS} (h : (expectSemiASI cfg st).1 = false) : semiErr cfg st = 1 := by simp [semiErr, h]

theorem expErr_of_not {ty : TokType} {st : PS} (h : (!(expectToken ty st).fst) = true) : expErr ty st = 1 := by
  simp [expErr] at *; simp [h]
theorem expErr_of_ok {ty : TokType} {st : PS} (h : ¬(!(expectToken ty st).fst) = true) : expErr ty st = 0 := by
  simp [expErr] at *; simp [h]
theorem semiErr_of_not {cfg : PCfg} {st : PS} (h : (!(expectSemiASI cfg st).fst) = true) : semiErr cfg st = 1 := by
  simp [semiErr] at *; simp [h]
theorem semiErr_of_ok {cfg : PCfg} {st : PS} (h : ¬(!(expectSemiASI cfg st).fst) = true) : semiErr cfg st = 0 := by
  simp [semiErr] at *; simp [h]
theorem expErr_le (ty : TokType) (st : PS) : expErr ty st ≤ 1 := by unfold expErr; split <;> omega
theorem semiErr_le (cfg : PCfg) (st : PS) : semiErr cfg st ≤ 1 := by unfold semiErr; split <;> omega

theorem Steps.elen_le {s s' : PS} (h : Steps s s') : s.elen ≤ s'.elen := h.errors_prefix.length_le

theorem Parse.elen_le {cfg : PCfg} {E : Prop} {k : Kind} {c : Call k} {st : PS} {x : k.type} {st' : PS}
    (h : Parse cfg E c st x st') : st.elen ≤ st'.elen := (h.steps st (.refl st)).elen_le

theorem and_right_apply {A B C : Prop} (h : A ∧ (B → C)) (hb : B) : C := h.2 hb

/-- linear arithmetic over the error counts of the states in the context -/
macro "elen_arith" : tactic => `(tactic| (
  (try simp_all only [elen_next, elen_push, elen_pop, elen_addError, elen_addErrorAt, elen_set, elen_setPrec, elen_setTrace,
    elen_expectToken, elen_expectSemi, expErr, semiErr, if_true, if_false, Bool.false_eq_true]) <;>
  omega))

/-- the premises of a constructor of `Parse cfg False`, from those of the same constructor of `Parse cfg E` and the
    induction hypotheses of `Parse.errorFree'` -/
macro "same_premises" : tactic =>
  `(tactic| first | assumption | (refine and_right_apply (by assumption) ?_; elen_arith))

/-- `Parse.errorFree` with the monotonicity of the error count carried along, so that each induction hypothesis brings
    the count of its sub-parse with it -/
theorem Parse.errorFree' {cfg : PCfg} {E : Prop} {k : Kind} {c : Call k} {st : PS} {x : k.type} {st' : PS}
    (h : Parse cfg E c st x st') : st.elen ≤ st'.elen ∧ (st'.elen ≤ st.elen → Parse cfg False c st x st') := by
  induction h
  all_goals refine ⟨by elen_arith, fun hle => ?_⟩
  -- a path that records an error contradicts `hle`; any other path is rebuilt from its error-free parts
  all_goals first
    | (exfalso; elen_arith)
    | same_path same_premises

/-- a run that records no error takes only error-free paths -/
theorem Parse.errorFree {cfg : PCfg} {E : Prop} {k : Kind} {c : Call k} {st : PS} {x : k.type} {st' : PS}
    (h : Parse cfg E c st x st') (hle : st'.elen ≤ st.elen) : Parse cfg False c st x st' :=
  h.errorFree'.2 hle

/-- the shape in which the passes over error-free runs are stated for all runs: either the run has the property or it
    recorded an error -/
theorem Parse.ok_or_err {cfg : PCfg} {E : Prop} {k : Kind} {c : Call k} {st : PS} {x : k.type} {st' : PS} {P : Prop}
    (h : Parse cfg E c st x st') (hP : Parse cfg False c st x st' → P) :
    st.elen ≤ st'.elen ∧ (P ∨ st.elen < st'.elen) := by
  refine ⟨h.elen_le, ?_⟩
  by_cases hle : st'.elen ≤ st.elen
  · exact .inl (hP (h.errorFree hle))
  · exact .inr (by omega)

end Xjs
