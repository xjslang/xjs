import XjsModel.Proofs.Writer
import XjsModel.Spec.TreeShape
/-
  C11 (e), second half: the printers dereference only mandatory children, so on a complete tree no nil child is
  ever dereferenced (`ok` stays what it was): compiling a complete tree cannot panic, in any configuration.
-/
namespace Xjs

@[simp] theorem ok_flushPending (cw : CW) : cw.flushPending.ok = cw.ok := by
  rw [flushPending_eq]
@[simp] theorem ok_mapAdvance (cw : CW) (f : Mapper → Mapper) : (cw.mapAdvance f).ok = cw.ok := by
  rw [mapAdvance_eq]
@[simp] theorem ok_writeString (cw : CW) (s : Bytes) : (cw.writeString s).ok = cw.ok := by
  rw [writeString_eq]
@[simp] theorem ok_writeRune (cw : CW) (r : Nat) : (cw.writeRune r).ok = cw.ok := by
  rw [writeRune_eq]
@[simp] theorem ok_writeSemi (cw : CW) : cw.writeSemi.ok = cw.ok := by
  unfold CW.writeSemi; split <;> (try split) <;> simp
@[simp] theorem ok_separateSigns (cw : CW) (op : Bytes) : (cw.separateSigns op).ok = cw.ok := by
  unfold CW.separateSigns
  split
  · rfl
  · split
    · rfl
    · dsimp only; split <;> simp
@[simp] theorem ok_increaseIndent (cw : CW) : cw.increaseIndent.ok = cw.ok := by unfold CW.increaseIndent; split <;> rfl
@[simp] theorem ok_decreaseIndent (cw : CW) : cw.decreaseIndent.ok = cw.ok := by unfold CW.decreaseIndent; split <;> rfl
@[simp] theorem ok_writeIndent (cw : CW) : cw.writeIndent.ok = cw.ok := by
  unfold CW.writeIndent; split <;> (try split) <;> rfl
@[simp] theorem ok_writeNewline (cw : CW) : cw.writeNewline.ok = cw.ok := by unfold CW.writeNewline; split <;> rfl
@[simp] theorem ok_writeSpace (cw : CW) : cw.writeSpace.ok = cw.ok := by
  unfold CW.writeSpace; split <;> (try split) <;> rfl
@[simp] theorem ok_rawIndent (cw : CW) : cw.rawIndent.ok = cw.ok := rfl
@[simp] theorem ok_leadingComments (cw : CW) (cs : List Bytes) : (cw.leadingComments cs).ok = cw.ok := by
  rw [leadingComments_eq]; split <;> rfl
@[simp] theorem ok_addMapping (cw : CW) (a b : Nat) : (cw.addMapping a b).ok = cw.ok := by unfold CW.addMapping; simp
@[simp] theorem ok_addNamedMapping (cw : CW) (a b : Nat) (n : Bytes) : (cw.addNamedMapping a b n).ok = cw.ok := by
  unfold CW.addNamedMapping; simp
@[simp] theorem ok_head (cw : CW) (t : Token) : (cw.head t).ok = cw.ok := by unfold CW.head; simp
@[simp] theorem ok_openIf (cw : CW) (b : Bool) : (cw.openIf b).ok = cw.ok := by unfold CW.openIf; split <;> simp
@[simp] theorem ok_closeIf (cw : CW) (b : Bool) : (cw.closeIf b).ok = cw.ok := by unfold CW.closeIf; split <;> simp
@[simp] theorem ok_sepIf (cw : CW) (b : Bool) : (cw.sepIf b).ok = cw.ok := by unfold CW.sepIf; split <;> simp
@[simp] theorem ok_newlineIf (cw : CW) (b : Bool) : (cw.newlineIf b).ok = cw.ok := by unfold CW.newlineIf; split <;> simp
@[simp] theorem ok_writeIdent (id : Ident) (cw : CW) : (writeIdent id cw).ok = cw.ok := by unfold writeIdent; simp
@[simp] theorem ok_writeParams (ps : List Ident) (f : Bool) (cw : CW) : (writeParams ps f cw).ok = cw.ok := by
  induction ps generalizing f cw with
  | nil => rfl
  | cons p rest ih => simp [writeParams, ih]

attribute [local simp] Expr.complete_not_none Stmt.complete_not_none

mutual
  theorem ok_writeExpr : ∀ (e : Expr) (cw : CW), e.complete = true → (writeExpr e cw).ok = cw.ok
    | .none, cw, h => by simp [Expr.complete] at h
    | .ident id, cw, h => by simp [writeExpr]
    | .int tok, cw, h => by simp [writeExpr]
    | .float tok, cw, h => by simp [writeExpr]
    | .str tok v, cw, h => by simp [writeExpr]
    | .raw tok v, cw, h => by simp [writeExpr]
    | .bool tok v, cw, h => by simp [writeExpr]
    | .null tok, cw, h => by simp [writeExpr]
    | .letE tok name v, cw, h => by
      simp only [Expr.complete, Bool.or_eq_true] at h
      rcases h with h | h <;> simp [writeExpr, h, ok_writeExpr v]
    | .binary tok l op r, cw, h => by
      simp only [Expr.complete, Bool.and_eq_true] at h
      simp [writeExpr, h, ok_writeExpr l, ok_writeExpr r]
    | .unary tok op r, cw, h => by
      simp only [Expr.complete] at h
      simp [writeExpr, h, apply_ite CW.ok, ok_writeExpr r]
    | .postfix tok l op, cw, h => by
      simp only [Expr.complete] at h
      simp [writeExpr, h, ok_writeExpr l]
    | .group tok e rp, cw, h => by
      simp only [Expr.complete] at h
      simp [writeExpr, h, ok_writeExpr e]
    | .call tok fn args, cw, h => by
      simp only [Expr.complete, Bool.and_eq_true] at h
      simp [writeExpr, h, ok_writeExprList args, ok_writeExpr fn]
    | .member tok obj prop c, cw, h => by
      simp only [Expr.complete, Bool.and_eq_true] at h
      simp [writeExpr, h, apply_ite CW.ok, ok_writeExpr prop, ok_writeExpr obj]
    | .assign tok l v, cw, h => by
      simp only [Expr.complete, Bool.and_eq_true] at h
      simp [writeExpr, h, ok_writeExpr v, ok_writeExpr l]
    | .compound tok l op v, cw, h => by
      simp only [Expr.complete, Bool.and_eq_true] at h
      simp [writeExpr, h, ok_writeExpr v, ok_writeExpr l]
    | .func tok name params body, cw, h => by
      simp only [Expr.complete] at h
      cases name <;> simp [writeExpr, h, ok_writeStmt body]
    | .array tok elems rb, cw, h => by
      simp only [Expr.complete] at h
      simp [writeExpr, h, ok_writeExprList elems]
    | .object tok props rb, cw, h => by
      simp only [Expr.complete] at h
      simp [writeExpr, h, ok_writeProps props]
  theorem ok_writeExprList : ∀ (es : ExprList) (first : Bool) (cw : CW), es.complete = true →
      (writeExprList es first cw).ok = cw.ok
    | .nil, _, cw, _ => by simp [writeExprList]
    | .cons e rest, first, cw, h => by
      simp only [ExprList.complete, Bool.and_eq_true] at h
      simp [writeExprList, h, ok_writeExprList rest, ok_writeExpr e]
  theorem ok_writeProps : ∀ (ps : PropList) (first : Bool) (cw : CW), ps.complete = true →
      (writeProps ps first cw).ok = cw.ok
    | .nil, _, cw, _ => by simp [writeProps]
    | .cons k v rest, first, cw, h => by
      simp only [PropList.complete, Bool.and_eq_true] at h
      simp [writeProps, h, ok_writeProps rest, ok_writeExpr v, ok_writeExpr k]
  theorem ok_writeStmt : ∀ (s : Stmt) (cw : CW), s.complete = true → (writeStmt s cw).ok = cw.ok
    | .none, cw, h => by simp [Stmt.complete] at h
    | .letS tok name v, cw, h => by
      simp only [Stmt.complete, Bool.or_eq_true] at h
      rcases h with h | h <;> simp [writeStmt, h, ok_writeExpr v]
    | .ret tok v, cw, h => by
      simp only [Stmt.complete, Bool.or_eq_true] at h
      rcases h with h | h <;> simp [writeStmt, h, ok_writeExpr v]
    | .exprS e, cw, h => by
      simp only [Stmt.complete] at h
      simp [writeStmt, h, ok_writeExpr e]
    | .funcD tok name params body, cw, h => by
      simp only [Stmt.complete] at h
      simp [writeStmt, h, ok_writeStmt body]
    | .block tok stmts rb, cw, h => by
      simp only [Stmt.complete] at h
      simp [writeStmt, h, ok_writeBlockStmts stmts]
    | .ifS tok c t e, cw, h => by
      simp only [Stmt.complete, Bool.and_eq_true, Bool.or_eq_true] at h
      rcases h.2 with he | he <;> simp [writeStmt, h.1, he, ok_writeStmt e, ok_writeStmt t, ok_writeExpr c]
    | .whileS tok c body, cw, h => by
      simp only [Stmt.complete, Bool.and_eq_true] at h
      simp [writeStmt, h, ok_writeStmt body, ok_writeExpr c]
    | .forS tok i c u body, cw, h => by
      simp only [Stmt.complete, Bool.and_eq_true, Bool.or_eq_true] at h
      obtain ⟨⟨⟨hi, hc⟩, hu⟩, hb⟩ := h
      rcases hi with hi | hi <;> rcases hc with hc | hc <;> rcases hu with hu | hu <;>
        simp [writeStmt, hi, hc, hu, hb, ok_writeExpr i, ok_writeExpr c, ok_writeExpr u, ok_writeStmt body]
  theorem ok_writeBlockStmts : ∀ (ss : StmtList) (first : Bool) (cw : CW), ss.complete = true →
      (writeBlockStmts ss first cw).ok = cw.ok
    | .nil, _, cw, _ => by simp [writeBlockStmts]
    | .cons s rest, first, cw, h => by
      simp only [StmtList.complete, Bool.and_eq_true] at h
      simp [writeBlockStmts, h, ok_writeBlockStmts rest, ok_writeStmt s]
  theorem ok_writeProgramStmts : ∀ (ss : StmtList) (first : Bool) (cw : CW), ss.complete = true →
      (writeProgramStmts ss first cw).ok = cw.ok
    | .nil, _, cw, _ => by simp [writeProgramStmts]
    | .cons s rest, first, cw, h => by
      simp only [StmtList.complete, Bool.and_eq_true] at h
      simp [writeProgramStmts, h, ok_writeProgramStmts rest, ok_writeStmt s]
end

/-- compiling a complete program never dereferences a nil child, in any configuration -/
theorem compile_ok (cfg : CompCfg) (prog : StmtList) (h : prog.complete = true) : (compile cfg prog).ok = true := by
  unfold compile
  simp only
  rw [ok_writeProgramStmts prog true _ h]

end Xjs
