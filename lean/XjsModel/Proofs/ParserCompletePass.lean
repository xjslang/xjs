import XjsModel.Proofs.ParserLen
import XjsModel.Spec.TreeShape
/-
  C11 (e): a parse step that records no error returns a complete node (every mandatory child present,
  recursively). An induction on the error-free fragment `Parse cfg False`.
-/
namespace Xjs

/-- every mandatory child of a result is present -/
def Kind.Complete : (k : Kind) → k.type → Prop
  | .stmt, s => s.complete = true
  | .expr, e => e.complete = true
  | .exprs, l => l.complete = true
  | .stmts, l => l.complete = true
  | .props, o => ∃ p, o = some p ∧ p.complete = true
  | .idents, _ => True

/-- what a call that records no error returns is complete, if the tree it was handed is; the clauses of
    `for (…;…;…)` may be absent -/
def Call.Complete : {k : Kind} → Call k → k.type → Prop
  | _, .forInit, e | _, .optExpr _, e => (e.isNone || e.complete) = true
  | _, .remaining left _, x | _, .infix left, x => left.complete = true → x.complete = true
  | _, .exprListLoop acc, x => acc.complete = true → x.complete = true
  | _, .objLoop acc, x => acc.complete = true → ∃ p, x = some p ∧ p.complete = true
  | _, .blockLoop acc, x | _, .programLoop acc, x => acc.complete = true → x.complete = true
  | _, .endStmt s, x => s.complete = true → x.complete = true
  | k, _, x => k.Complete x

theorem Parse.complete {cfg : PCfg} {k : Kind} {c : Call k} {st : PS} {x : k.type} {st' : PS}
    (h : Parse cfg False c st x st') : c.Complete x := by
  induction h
  any_goals (exfalso; assumption)
  case base ih => unfold stmtCall at ih; split at ih <;> exact ih
  -- a complete statement is not nil, so the loop appends it
  case blockLoop_step ih1 ih2 | programLoop_step ih1 ih2 =>
    exact fun hacc => ih2 (by simp_all [Call.Complete, Kind.Complete, Stmt.complete_not_none,
      StmtList.complete_snoc])
  all_goals simp_all [Call.Complete, Kind.Complete, Expr.complete, Stmt.complete, ExprList.complete,
    StmtList.complete, PropList.complete, ExprList.complete_snoc, PropList.complete_snoc, Expr.isNone, Stmt.isNone]

theorem complete_mutual (cfg : PCfg) :
    (∀ is st r, parseStatementI cfg is st = some r → st.elen ≤ r.2.elen ∧ ((r.1.complete = true) ∨ st.elen < r.2.elen)) ∧
    (∀ st r, baseParseStatement cfg st = some r → st.elen ≤ r.2.elen ∧ ((r.1.complete = true) ∨ st.elen < r.2.elen)) ∧
    (∀ st r, parseExpressionStatement cfg st = some r → st.elen ≤ r.2.elen ∧ ((r.1.complete = true) ∨ st.elen < r.2.elen)) ∧
    (∀ is prec st r, parseExpressionI cfg is prec st = some r → st.elen ≤ r.2.elen ∧ ((r.1.complete = true) ∨ st.elen < r.2.elen)) ∧
    (∀ left prec st r, parseRemaining cfg left prec st = some r → st.elen ≤ r.2.elen ∧ ((left.complete = true → r.1.complete = true) ∨ st.elen < r.2.elen)) ∧
    (∀ left st r, parseInfixExpression cfg left st = some r → st.elen ≤ r.2.elen ∧ ((left.complete = true → r.1.complete = true) ∨ st.elen < r.2.elen)) ∧
    (∀ endTy st r, parseExpressionList cfg endTy st = some r → st.elen ≤ r.2.elen ∧ ((r.1.complete = true) ∨ st.elen < r.2.elen)) ∧
    (∀ acc st r, exprListLoop cfg acc st = some r → st.elen ≤ r.2.elen ∧ ((acc.complete = true → r.1.complete = true) ∨ st.elen < r.2.elen)) ∧
    (∀ st r, parsePrefixExpression cfg st = some r → st.elen ≤ r.2.elen ∧ ((r.1.complete = true) ∨ st.elen < r.2.elen)) ∧
    (∀ st r, parseFunctionExpression cfg st = some r → st.elen ≤ r.2.elen ∧ ((r.1.complete = true) ∨ st.elen < r.2.elen)) ∧
    (∀ st r, parseBlockStatement cfg st = some r → st.elen ≤ r.2.elen ∧ ((r.1.complete = true) ∨ st.elen < r.2.elen)) ∧
    (∀ acc st r, blockLoop cfg acc st = some r → st.elen ≤ r.2.elen ∧ ((acc.complete = true → r.1.complete = true) ∨ st.elen < r.2.elen)) ∧
    (∀ st r, parseObjectLiteral cfg st = some r → st.elen ≤ r.2.elen ∧ ((r.1.complete = true) ∨ st.elen < r.2.elen)) ∧
    (∀ acc st r, objectLoop cfg acc st = some r → st.elen ≤ r.2.elen ∧ ((acc.complete = true → ∃ p, r.1 = some p ∧ p.complete = true) ∨ st.elen < r.2.elen)) ∧
    (∀ st r, parseForStatement cfg st = some r → st.elen ≤ r.2.elen ∧ ((r.1.complete = true) ∨ st.elen < r.2.elen)) ∧
    (∀ st r, parseForInit cfg st = some r → st.elen ≤ r.2.elen ∧ (((r.1.isNone || r.1.complete) = true) ∨ st.elen < r.2.elen)) ∧
    (∀ st r, parseLetExpression cfg st = some r → st.elen ≤ r.2.elen ∧ ((r.1.complete = true) ∨ st.elen < r.2.elen)) ∧
    (∀ st r, parseWhileStatement cfg st = some r → st.elen ≤ r.2.elen ∧ ((r.1.complete = true) ∨ st.elen < r.2.elen)) ∧
    (∀ st r, parseIfStatement cfg st = some r → st.elen ≤ r.2.elen ∧ ((r.1.complete = true) ∨ st.elen < r.2.elen)) ∧
    (∀ st r, parseReturnStatement cfg st = some r → st.elen ≤ r.2.elen ∧ ((r.1.complete = true) ∨ st.elen < r.2.elen)) ∧
    (∀ st r, parseFunctionStatement cfg st = some r → st.elen ≤ r.2.elen ∧ ((r.1.complete = true) ∨ st.elen < r.2.elen)) ∧
    (∀ st r, parseLetStatement cfg st = some r → st.elen ≤ r.2.elen ∧ ((r.1.complete = true) ∨ st.elen < r.2.elen)) :=
  Parse.run_mutual (M := fun c st r => st.elen ≤ r.2.elen ∧ (c.Complete r.1 ∨ st.elen < r.2.elen))
    fun _ _ _ h => (Parse.of_run h).ok_or_err Parse.complete

end Xjs
