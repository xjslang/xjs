import XjsModel.Proofs.ParserSmart
/-
  The smart-semicolon pass (C13 c).
-/
namespace Xjs

/-- what `smart_mutual` says of a function `f` of the smart-mode parser and a default-mode run from `st` with result `r` -/
def SmartM {α : Type} (f : PS → Option (α × PS)) (st : PS) (r : α × PS) : Prop :=
  st.noLI → (f st = some r ∧ r.2.noLI)

/-- the premises of a path of `Parse cfg.smartOn`, from those of the same path of `Parse cfg.smartOff` and the induction
    hypotheses of `Parse.smart`: a sub-parse starts in a state reached by primitive steps and earlier sub-parses -/
macro "smart_premises" : tactic => `(tactic| first
  | assumption
  | (apply_assumption
     repeat' first
       | assumption | apply noLI_next | apply noLI_expectToken | rw [noLI_push]
       | refine Parse.noLI (by assumption) ?_))

-- as in `Parse.of_mutual`: the premises of a path are compared with the hypotheses, not unfolded
attribute [local irreducible] expectToken PS.next PS.push PS.pop PS.addError PS.addErrorAt PS.peek PS.cur in
/-- Without a `(` or `[` at the start of a line in what is left of the input, a default-mode run is, path for path, a
    smart-mode run. -/
theorem Parse.smart {cfg : PCfg} {E : Prop} {k : Kind} {c : Call k} {st : PS} {x : k.type} {st' : PS}
    (h : Parse cfg.smartOff E c st x st') : st.noLI → Parse cfg.smartOn E c st x st' := by
  induction h
  all_goals intro h0
  case remaining_stop hc => exact .remaining_stop (by rwa [smart_continues h0])
  case remaining_step hc h1 _ ih1 ih2 =>
    exact .remaining_step (by rwa [smart_continues h0]) (ih1 h0) (ih2 (h1.noLI h0))
  all_goals same_path smart_premises

theorem smart_run {cfg : PCfg} {k : Kind} (c : Call k) {st : PS} {r : k.type × PS}
    (h : c.run cfg.smartOff st = some r) : SmartM (c.run cfg.smartOn) st r :=
  fun h0 => ⟨((Parse.of_run h).smart h0).run, (Parse.of_run h).noLI h0⟩

theorem smart_mutual (cfg : PCfg) :
    (∀ is st r, parseStatementI cfg.smartOff is st = some r → SmartM (parseStatementI cfg.smartOn is) st r) ∧
    (∀ st r, baseParseStatement cfg.smartOff st = some r → SmartM (baseParseStatement cfg.smartOn) st r) ∧
    (∀ st r, parseExpressionStatement cfg.smartOff st = some r → SmartM (parseExpressionStatement cfg.smartOn) st r) ∧
    (∀ is prec st r, parseExpressionI cfg.smartOff is prec st = some r → SmartM (parseExpressionI cfg.smartOn is prec) st r) ∧
    (∀ left prec st r, parseRemaining cfg.smartOff left prec st = some r → SmartM (parseRemaining cfg.smartOn left prec) st r) ∧
    (∀ left st r, parseInfixExpression cfg.smartOff left st = some r → SmartM (parseInfixExpression cfg.smartOn left) st r) ∧
    (∀ endTy st r, parseExpressionList cfg.smartOff endTy st = some r → SmartM (parseExpressionList cfg.smartOn endTy) st r) ∧
    (∀ acc st r, exprListLoop cfg.smartOff acc st = some r → SmartM (exprListLoop cfg.smartOn acc) st r) ∧
    (∀ st r, parsePrefixExpression cfg.smartOff st = some r → SmartM (parsePrefixExpression cfg.smartOn) st r) ∧
    (∀ st r, parseFunctionExpression cfg.smartOff st = some r → SmartM (parseFunctionExpression cfg.smartOn) st r) ∧
    (∀ st r, parseBlockStatement cfg.smartOff st = some r → SmartM (parseBlockStatement cfg.smartOn) st r) ∧
    (∀ acc st r, blockLoop cfg.smartOff acc st = some r → SmartM (blockLoop cfg.smartOn acc) st r) ∧
    (∀ st r, parseObjectLiteral cfg.smartOff st = some r → SmartM (parseObjectLiteral cfg.smartOn) st r) ∧
    (∀ acc st r, objectLoop cfg.smartOff acc st = some r → SmartM (objectLoop cfg.smartOn acc) st r) ∧
    (∀ st r, parseForStatement cfg.smartOff st = some r → SmartM (parseForStatement cfg.smartOn) st r) ∧
    (∀ st r, parseForInit cfg.smartOff st = some r → SmartM (parseForInit cfg.smartOn) st r) ∧
    (∀ st r, parseLetExpression cfg.smartOff st = some r → SmartM (parseLetExpression cfg.smartOn) st r) ∧
    (∀ st r, parseWhileStatement cfg.smartOff st = some r → SmartM (parseWhileStatement cfg.smartOn) st r) ∧
    (∀ st r, parseIfStatement cfg.smartOff st = some r → SmartM (parseIfStatement cfg.smartOn) st r) ∧
    (∀ st r, parseReturnStatement cfg.smartOff st = some r → SmartM (parseReturnStatement cfg.smartOn) st r) ∧
    (∀ st r, parseFunctionStatement cfg.smartOff st = some r → SmartM (parseFunctionStatement cfg.smartOn) st r) ∧
    (∀ st r, parseLetStatement cfg.smartOff st = some r → SmartM (parseLetStatement cfg.smartOn) st r) :=
  Parse.run_mutual (cfg := cfg.smartOff) (M := fun c st r => SmartM (c.run cfg.smartOn) st r) fun c _ _ => smart_run c

end Xjs
