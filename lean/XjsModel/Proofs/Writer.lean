import XjsModel.Model.Printer
import XjsModel.Spec.Comments
/-
  Writer algebra. First what the `CodeWriter` operations with a loop or a case distinction inside do to the writer, as
  one record update each; then how the operations commute with forgetting the mapper.
-/
namespace Xjs

def CW.indentBytes (cw : CW) : Bytes := (List.replicate cw.indentLevel cw.indentUnit).flatten

/-- what flushing the pending characters `l` writes: a pending tab stands for the indentation -/
def flushBytes (cw : CW) (l : List Nat) : Bytes := l.flatMap (fun c => if c == 9 then cw.indentBytes else [c])

theorem mapAdvance_eq (cw : CW) (f : Mapper → Mapper) : cw.mapAdvance f = { cw with mapper := cw.mapper.map f } := by
  unfold CW.mapAdvance
  cases cw with | mk _ m => cases m <;> rfl

theorem foldl_flushOne (l : List Nat) (cw : CW) :
    l.foldl CW.flushOne cw = { cw with out := cw.out ++ flushBytes cw l } := by
  induction l generalizing cw with
  | nil => simp [flushBytes]
  | cons c r ih =>
    simp only [List.foldl_cons]
    rw [ih]
    unfold CW.flushOne CW.rawIndent flushBytes CW.indentBytes CW.indentUnit
    split <;> simp_all [List.flatMap_cons]

theorem flushPending_eq (cw : CW) :
    cw.flushPending = { cw with out := cw.out ++ flushBytes cw cw.pendings, pendings := [] } := by
  unfold CW.flushPending; rw [foldl_flushOne]

theorem flushPending_id {cw : CW} (h : cw.pendings = []) : cw.flushPending = cw := by
  cases cw; simp only at h; subst h; rfl

theorem writeString_eq (cw : CW) (s : Bytes) :
    cw.writeString s = { cw with out := cw.out ++ flushBytes cw cw.pendings ++ s, pendings := [],
                                 mapper := cw.mapper.map (·.advanceString s) } := by
  unfold CW.writeString; rw [mapAdvance_eq, flushPending_eq]

theorem writeRune_eq (cw : CW) (r : Nat) :
    cw.writeRune r = { cw with out := cw.out ++ flushBytes cw cw.pendings ++ [r], pendings := [],
                               mapper := cw.mapper.map (fun m => if r == 10 then m.advanceLine else m.advanceColumn 1) } := by
  unfold CW.writeRune; rw [mapAdvance_eq, flushPending_eq]

/-- the loop of `WriteLeadingComments` touches the output only, and appends the text of the entries -/
theorem commentsLoop_eq (cs : List Bytes) (first : Bool) (cw : CW) :
    cw.commentsLoop cs first = { cw with out := cw.out ++ commentText cw.indentBytes cs first } := by
  induction cs generalizing first cw with
  | nil => simp [CW.commentsLoop, commentText]
  | cons c rest ih =>
    rw [CW.commentsLoop, ih]
    cases first <;> cases hc : c.isEmpty <;>
      simp [commentText, commentSeg, CW.rawIndent, CW.indentBytes, CW.indentUnit, hc]

/-- `WriteLeadingComments` acts in pretty mode and on a non-empty list only: the entries go to the output and to the
    ghost log in the same step, and the code that follows starts on a fresh indented line -/
theorem leadingComments_eq (cw : CW) (cs : List Bytes) :
    cw.leadingComments cs = if cw.pretty = true ∧ cs ≠ [] then
      { cw with out := cw.out ++ commentText cw.indentBytes cs true, pendings := [10, 9], clog := cw.clog ++ cs }
    else cw := by
  cases hp : cw.pretty <;> cases cs <;>
    simp [CW.leadingComments, hp, commentsLoop_eq, CW.writeNewline, CW.writeIndent]

/-- forget the source-map builder -/
def CW.noMap (cw : CW) : CW := { cw with mapper := none }

@[simp] theorem noMap_out (cw : CW) : cw.noMap.out = cw.out := rfl
@[simp] theorem noMap_noMap (cw : CW) : cw.noMap.noMap = cw.noMap := rfl

@[simp] theorem noMap_mapAdvance (cw : CW) (f : Mapper → Mapper) : (cw.mapAdvance f).noMap = cw.noMap := by
  rw [mapAdvance_eq]; rfl

@[simp] theorem mapAdvance_noMap (cw : CW) (f : Mapper → Mapper) : cw.noMap.mapAdvance f = cw.noMap := rfl

@[simp] theorem noMap_panic (cw : CW) : cw.panic.noMap = cw.noMap.panic := rfl

@[simp] theorem noMap_rawIndent (cw : CW) : cw.rawIndent.noMap = cw.noMap.rawIndent := rfl

@[simp] theorem noMap_flushPending (cw : CW) : cw.flushPending.noMap = cw.noMap.flushPending := by
  rw [flushPending_eq, flushPending_eq]; rfl

@[simp] theorem noMap_writeString (cw : CW) (s : Bytes) : (cw.writeString s).noMap = cw.noMap.writeString s := by
  rw [writeString_eq, writeString_eq]; rfl

@[simp] theorem noMap_writeRune (cw : CW) (r : Nat) : (cw.writeRune r).noMap = cw.noMap.writeRune r := by
  rw [writeRune_eq, writeRune_eq]; rfl

@[simp] theorem noMap_writeSemi (cw : CW) : cw.writeSemi.noMap = cw.noMap.writeSemi := by
  unfold CW.writeSemi
  show _ = if !cw.pretty then _ else if cw.semis then _ else _
  split
  · exact noMap_writeRune _ _
  · split
    · exact noMap_writeRune _ _
    · rfl

@[simp] theorem noMap_separateSigns (cw : CW) (op : Bytes) : (cw.separateSigns op).noMap = cw.noMap.separateSigns op := by
  unfold CW.separateSigns
  cases op with
  | nil => rfl
  | cons c r =>
    simp only
    split
    · rfl
    · have h : cw.noMap.flushPending.out = cw.flushPending.out := by rw [← noMap_flushPending]; rfl
      rw [h]
      split
      · rw [noMap_writeRune, noMap_flushPending]
      · exact noMap_flushPending cw

@[simp] theorem noMap_increaseIndent (cw : CW) : cw.increaseIndent.noMap = cw.noMap.increaseIndent := by
  unfold CW.increaseIndent; show _ = if !cw.pretty then _ else _; split <;> rfl
@[simp] theorem noMap_decreaseIndent (cw : CW) : cw.decreaseIndent.noMap = cw.noMap.decreaseIndent := by
  unfold CW.decreaseIndent; show _ = if !cw.pretty then _ else _; split <;> rfl
@[simp] theorem noMap_writeIndent (cw : CW) : cw.writeIndent.noMap = cw.noMap.writeIndent := by
  unfold CW.writeIndent
  show _ = if !cw.pretty then _ else if cw.pendings.getLast? == some 9 then _ else _
  split
  · rfl
  · split <;> rfl
@[simp] theorem noMap_writeNewline (cw : CW) : cw.writeNewline.noMap = cw.noMap.writeNewline := by
  unfold CW.writeNewline; show _ = if !cw.pretty then _ else _; split <;> rfl
@[simp] theorem noMap_writeSpace (cw : CW) : cw.writeSpace.noMap = cw.noMap.writeSpace := by
  unfold CW.writeSpace
  show _ = if !cw.pretty then _ else if cw.pendings.getLast? == some 32 then _ else _
  split
  · rfl
  · split <;> rfl

@[simp] theorem noMap_leadingComments (cw : CW) (cs : List Bytes) :
    (cw.leadingComments cs).noMap = cw.noMap.leadingComments cs := by
  rw [leadingComments_eq, leadingComments_eq]
  show _ = if cw.pretty = true ∧ cs ≠ [] then _ else _
  split <;> rfl

@[simp] theorem noMap_addMapping (cw : CW) (a b : Nat) : (cw.addMapping a b).noMap = cw.noMap := by
  simp [CW.addMapping]
@[simp] theorem noMap_addNamedMapping (cw : CW) (a b : Nat) (n : Bytes) : (cw.addNamedMapping a b n).noMap = cw.noMap := by
  simp [CW.addNamedMapping]
@[simp] theorem addMapping_noMap (cw : CW) (a b : Nat) : cw.noMap.addMapping a b = cw.noMap := rfl
@[simp] theorem addNamedMapping_noMap (cw : CW) (a b : Nat) (n : Bytes) : cw.noMap.addNamedMapping a b n = cw.noMap := rfl

@[simp] theorem noMap_head (cw : CW) (t : Token) : (cw.head t).noMap = cw.noMap.leadingComments t.comments := by
  simp [CW.head]

@[simp] theorem noMap_writeIdent (id : Ident) (cw : CW) : (writeIdent id cw).noMap = writeIdent id cw.noMap := by
  simp only [writeIdent, noMap_writeString, noMap_addNamedMapping, noMap_leadingComments]
  rw [← noMap_leadingComments, addNamedMapping_noMap]

/-- `head` on a writer without mapper -/
@[simp] theorem head_noMap (cw : CW) (t : Token) : cw.noMap.head t = cw.noMap.leadingComments t.comments := by
  simp only [CW.head]
  rw [← noMap_leadingComments, addMapping_noMap]

@[simp] theorem noMap_openIf (cw : CW) (b : Bool) : (cw.openIf b).noMap = cw.noMap.openIf b := by
  unfold CW.openIf; split <;> simp
@[simp] theorem noMap_closeIf (cw : CW) (b : Bool) : (cw.closeIf b).noMap = cw.noMap.closeIf b := by
  unfold CW.closeIf; split <;> simp
@[simp] theorem noMap_sepIf (cw : CW) (b : Bool) : (cw.sepIf b).noMap = cw.noMap.sepIf b := by
  unfold CW.sepIf; split <;> simp
@[simp] theorem noMap_newlineIf (cw : CW) (b : Bool) : (cw.newlineIf b).noMap = cw.noMap.newlineIf b := by
  unfold CW.newlineIf; split <;> simp

theorem noMap_writeParams (ps : List Ident) (first : Bool) (cw : CW) :
    (writeParams ps first cw).noMap = writeParams ps first cw.noMap := by
  induction ps generalizing cw first with
  | nil => rfl
  | cons p rest ih =>
    simp only [writeParams]
    rw [ih, noMap_writeIdent, noMap_sepIf]

end Xjs
