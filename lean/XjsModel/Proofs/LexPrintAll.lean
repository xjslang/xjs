import XjsModel.Proofs.LexPrintTree
import XjsModel.Proofs.StringValue
/-
  Lexing what the printer spells: from `LexTo` to the token list `lexAll` returns; the compact compiler's text;
  decidable sufficient conditions for the sanity of literals.
-/
namespace Xjs.LP
open Xjs Xjs.RA

/-- everything the parser can see of a token but its position -/
def keyOf4 (t : Token) : Key × Bool × List Bytes := ((t.type, t.lit), t.nl, t.comments)
/-- the key of a token that stands on the line of its predecessor with no comment in between -/
def quietKey (t : Token) : Key × Bool × List Bytes := ((t.type, t.lit), false, [])
def eofKey : Key × Bool × List Bytes := ((.eof, []), false, [])

theorem blanks_eof : ∀ (n : Nat) (s : LS), s.rest = List.replicate n 32 → keyOf4 (nextToken s).1 = eofKey
  | 0, s, h => by rw [nextToken_at_end s (by simpa using h)]; rfl
  | n + 1, s, h => by
    rw [nextToken_blank s (List.replicate n 32) (by rw [h, List.replicate_succ])]
    exact blanks_eof n (readChar s) (by rw [readChar_rest, h, List.replicate_succ]; rfl)

/-- if the text lexes to `ks` and nothing is left, `lexGo` (with enough fuel) returns tokens with exactly those keys, none
    of them after a line break or a comment, followed by the end-of-input token -/
theorem lexGo_of_LexTo {b : Bytes} {ks : List Key} {r : Bytes} (h : LexTo b ks r) (hr : r = []) :
    ∀ (fuel : Nat) (s : LS), s.rest = b → b.length < fuel →
      (lexGo fuel s).map keyOf4 = ks.map (fun k => (k, false, [])) ++ [eofKey] := by
  induction h with
  | done n r =>
    intro fuel s hs hf
    subst hr
    cases fuel with
    | zero => omega
    | succ fuel =>
      have h1 := blanks_eof n s (by simpa using hs)
      have hty : (nextToken s).1.type = .eof := by
        have := congrArg (fun x => x.1.1) h1; simpa [keyOf4, eofKey] using this
      simp only [lexGo, hty, beq_self_eq_true, if_true, List.map_cons, List.map_nil, List.nil_append, h1]
  | @tok b b' r k ks hk hne _ ih =>
    intro fuel s hs hf
    cases fuel with
    | zero => omega
    | succ fuel =>
      have h3 := hk s hs
      simp only [key3, Prod.mk.injEq] at h3
      have hty : (nextToken s).1.type ≠ .eof := by rw [show (nextToken s).1.type = k.1 from by rw [← h3.1]]; exact hne
      have hlt := nextToken_progress s hty
      have hrest : (nextToken s).2.rest = b' := h3.2.1
      have := ih hr fuel (nextToken s).2 hrest (by rw [hrest] at hlt; rw [hs] at hlt; omega)
      simp only [lexGo, show ((nextToken s).1.type == TokType.eof) = false from by simpa using hty, Bool.false_eq_true, if_false,
        List.map_cons, this, List.cons_append]
      congr 1
      simp only [keyOf4, h3.2.2.1, h3.2.2.2]
      rw [← h3.1]

theorem lexAll_of_LexTo {src : Bytes} {ks : List Key} (h : LexTo src ks []) :
    (lexAll src).map keyOf4 = ks.map (fun k => (k, false, [])) ++ [eofKey] :=
  lexGo_of_LexTo h rfl (src.length + 1) (LS.init src) rfl (Nat.lt_succ_self _)

theorem compact_LexTo (cfg : CompCfg) (hc : cfg.pretty = false) (prog : SSList) (hw : prog.wf = true) (ht : prog.term = true)
    (hs : saneB prog) : LexTo (compile cfg prog.tree).code (prog.toks.map keyOf) [] := by
  unfold compile
  simp only [hc, Bool.false_eq_true, if_false]
  obtain ⟨fc, h, ha⟩ := (lexB prog hw ht hs).2 true
    (WInv.init { pretty := cfg.pretty, indentString := cfg.indent, semis := cfg.semis,
                 mapper := if cfg.sourceMap then some Mapper.new else none } hc rfl rfl) allOK_any
  have := h.lex [] (ha [])
  simpa [hc] using this

/-- COMPACT TEXT → TOKENS: for every well-formed program tree with lexically sane tokens, the text the compiler emits in
    compact mode (with or without a source map) is read by the lexer as exactly the tokens `toks` of the tree — type and
    literal of each, no token after a line break, none with a comment — followed by end of input -/
theorem compact_text_lexes4 (cfg : CompCfg) (hc : cfg.pretty = false) (prog : SSList) (hw : prog.wf = true) (ht : prog.term = true)
    (hs : saneB prog) : (lexAll (compile cfg prog.tree).code).map keyOf4 = prog.toks.map quietKey ++ [eofKey] := by
  rw [lexAll_of_LexTo (compact_LexTo cfg hc prog hw ht hs), List.map_map]
  rfl

theorem compact_text_lexes (cfg : CompCfg) (hc : cfg.pretty = false) (prog : SSList) (hw : prog.wf = true) (ht : prog.term = true)
    (hs : saneB prog) : (lexAll (compile cfg prog.tree).code).map keyOf = prog.toks.map keyOf ++ [(.eof, [])] := by
  have := congrArg (List.map Prod.fst) (compact_text_lexes4 cfg hc prog hw ht hs)
  have e : keyOf = fun x : Token => (x.type, x.lit) := rfl
  rw [e]
  simpa [List.map_map, Function.comp_def, keyOf4, quietKey, eofKey] using this

/-! ## decidable sufficient conditions for literal sanity -/

/-- a body without NUL, `"` and backslash -/
def plainStr (v : Bytes) : Bool := v.all (fun c => c != 0 && c != 34 && c != 92)

theorem scanString_plain (r : Bytes) : ∀ (v : Bytes), plainStr v = true → ∀ (fuel : Nat) (acc : Bytes) (n : Nat), v.length < fuel →
    scanString 34 fuel (v ++ 34 :: r) acc n = (acc ++ v, n + v.length)
  | [], _, fuel + 1, acc, n, _ => by simp [SVP.step_end 34 fuel r acc n]
  | c :: v, hv, fuel + 1, acc, n, hf => by
    simp only [plainStr, List.all_cons, Bool.and_eq_true, bne_iff_ne, ne_eq] at hv
    rw [List.cons_append, SVP.step_raw 34 fuel c _ acc n hv.1.1.1 hv.1.2 hv.1.1.2, if_neg (by simpa using hv.1.1.2),
      scanString_plain r v (by simpa [plainStr] using hv.2) fuel _ _ (by simp at hf; omega)]
    simp; omega

theorem strOk_plain (v : Bytes) (h : plainStr v = true) : strOk v := fun r => by
  have := scanString_plain r v h (v ++ 34 :: r).length [] 0 (by simp)
  simpa using this

/-- a value without NUL and backslash (backticks allowed: the printer escapes them, the lexer unescapes them) -/
def plainRaw (v : Bytes) : Bool := v.all (fun c => c != 0 && c != 92)

theorem scanRaw_plain (r : Bytes) : ∀ (v : Bytes), plainRaw v = true → ∀ (acc : Bytes) (n : Nat),
    scanRaw (escBackticks v ++ 96 :: r) acc n = (acc ++ v, n + (escBackticks v).length)
  | [], _, acc, n => by
    show scanRaw (96 :: r) acc n = _
    rw [scanRaw.eq_def]; simp [escBackticks]
  | c :: v, hv, acc, n => by
    simp only [plainRaw, List.all_cons, Bool.and_eq_true, bne_iff_ne, ne_eq] at hv
    by_cases h96 : c = 96
    · subst h96
      have ih := scanRaw_plain r v (by simpa [plainRaw] using hv.2) (acc ++ [96]) (n + 2)
      have e : escBackticks (96 :: v) = 92 :: 96 :: escBackticks v := by simp [escBackticks]
      rw [e]
      show scanRaw (92 :: 96 :: (escBackticks v ++ 96 :: r)) acc n = _
      rw [scanRaw.eq_def]; simp only [beq_self_eq_true, if_true, show ((92 : Nat) == 0) = false from rfl, Bool.false_eq_true, if_false]
      rw [ih]; simp; omega
    · have ih := scanRaw_plain r v (by simpa [plainRaw] using hv.2) (acc ++ [c]) (n + 1)
      have e : escBackticks (c :: v) = c :: escBackticks v := by simp [escBackticks, h96]
      rw [e]
      show scanRaw (c :: (escBackticks v ++ 96 :: r)) acc n = _
      rw [scanRaw.eq_def]; simp only [beq_iff_eq, hv.1.1, hv.1.2, h96, if_false]
      rw [ih]; simp; omega

theorem rawOk_plain (v : Bytes) (h : plainRaw v = true) : rawOk v := fun r => by
  simpa using scanRaw_plain r v h [] 0

/-- a non-empty run of decimal digits -/
def decimalLit (w : Bytes) : Bool := !w.isEmpty && w.all isDigit

theorem digit_not_letter (c : Nat) (h : isDigit c = true) : isLetter c = false := by
  cases hl : isLetter c
  · rfl
  · rw [letter_not_digit c hl] at h; cases h

theorem ne_of_not_letter (c k : Nat) (h : isLetter c = false) (hk : isLetter k = true) : (c == k) = false := by
  cases e : c == k
  · rfl
  · have : c = k := by simpa using e
    subst this; rw [h] at hk; cases hk

theorem numOk_decimal (w : Bytes) (h : decimalLit w = true) : numOk w .int := by
  cases w with
  | nil => cases h
  | cons c w' =>
    simp only [decimalLit, List.isEmpty_cons, Bool.not_false, Bool.true_and, List.all_cons, Bool.and_eq_true] at h
    refine ⟨by simpa using h.1, fun r hr => ?_⟩
    simp only [fol, Bool.and_eq_true, Bool.not_eq_true', isWordByte, Bool.or_eq_false_iff] at hr
    -- the second byte is a digit or the first byte of `r`: never a letter
    have hp : isLetter (((c :: w') ++ r).tail.headD 0) = false := by
      cases w' with
      | nil => simpa using hr.1.1
      | cons d w'' => simp only [List.all_cons, Bool.and_eq_true] at h; simpa using digit_not_letter d h.2.1
    have hn1 : takeWhileLen isDigit ((c :: w') ++ r) = (c :: w').length := by
      unfold takeWhileLen
      rw [takeWhile_append_stop isDigit (c :: w') r (by
        intro x hx; rcases List.mem_cons.1 hx with rfl | hx
        · exact h.1
        · exact (List.all_eq_true.1 h.2) x hx) (Or.inl hr.1.2)]
    unfold scanNumber
    simp only [ne_of_not_letter _ 120 hp rfl, ne_of_not_letter _ 88 hp rfl, ne_of_not_letter _ 98 hp rfl, ne_of_not_letter _ 66 hp rfl,
      ne_of_not_letter _ 111 hp rfl, ne_of_not_letter _ 79 hp rfl, Bool.or_self, Bool.and_false, Bool.false_eq_true, if_false, hn1,
      List.drop_left']
    have hfrac : (r.headD 0 == 46 && isDigit (r.tail.headD 0)) = false := by simpa using hr.2
    simp only [hfrac, Bool.false_eq_true, if_false, List.drop_left', ne_of_not_letter _ 101 hr.1.1 rfl, ne_of_not_letter _ 69 hr.1.1 rfl,
      Bool.or_self]

/-- digits `.` digits: a decimal literal with a fraction -/
def fractionLit (d1 d2 : Bytes) : Bool := !d1.isEmpty && d1.all isDigit && !d2.isEmpty && d2.all isDigit

theorem takeWhileLen_digits (d rest : Bytes) (hd : d.all isDigit = true) (hr : isDigit (rest.headD 0) = false) :
    takeWhileLen isDigit (d ++ rest) = d.length := by
  unfold takeWhileLen
  rw [takeWhile_append_stop isDigit d rest (fun x hx => (List.all_eq_true.1 hd) x hx) (Or.inl hr)]

theorem numOk_fraction (d1 d2 : Bytes) (h : fractionLit d1 d2 = true) : numOk (d1 ++ 46 :: d2) .float := by
  simp only [fractionLit, Bool.and_eq_true, Bool.not_eq_true', List.isEmpty_eq_false_iff] at h
  obtain ⟨⟨⟨hne1, hd1⟩, hne2⟩, hd2⟩ := h
  obtain ⟨c, w1, rfl⟩ : ∃ c w1, d1 = c :: w1 := by cases d1 with | nil => exact absurd rfl hne1 | cons c w => exact ⟨c, w, rfl⟩
  obtain ⟨e, w2, rfl⟩ : ∃ e w2, d2 = e :: w2 := by cases d2 with | nil => exact absurd rfl hne2 | cons c w => exact ⟨c, w, rfl⟩
  have hc : isDigit c = true := by simp only [List.all_cons, Bool.and_eq_true] at hd1; exact hd1.1
  have he : isDigit e = true := by simp only [List.all_cons, Bool.and_eq_true] at hd2; exact hd2.1
  refine ⟨by simpa using hc, fun r hr => ?_⟩
  simp only [fol, Bool.and_eq_true, Bool.not_eq_true', isWordByte, Bool.or_eq_false_iff] at hr
  -- the whole text in one normal form
  have hB : (c :: w1 ++ 46 :: (e :: w2)) ++ r = c :: (w1 ++ 46 :: e :: (w2 ++ r)) := by simp
  rw [hB]
  have hp : isLetter ((w1 ++ 46 :: e :: (w2 ++ r)).headD 0) = false := by
    cases w1 with
    | nil => show isLetter 46 = false; decide
    | cons d w => simp only [List.all_cons, Bool.and_eq_true] at hd1; simpa using digit_not_letter d hd1.2.1
  have hn1 : takeWhileLen isDigit (c :: (w1 ++ 46 :: e :: (w2 ++ r))) = w1.length + 1 := by
    have := takeWhileLen_digits (c :: w1) (46 :: e :: (w2 ++ r)) hd1 (show isDigit 46 = false by decide)
    simpa using this
  have hdr1 : List.drop (w1.length + 1) (c :: (w1 ++ 46 :: e :: (w2 ++ r))) = 46 :: e :: (w2 ++ r) := by
    rw [List.drop_succ_cons, List.drop_left' rfl]
  have hn2 : takeWhileLen isDigit (e :: (w2 ++ r)) = w2.length + 1 := by
    have := takeWhileLen_digits (e :: w2) r hd2 hr.1.2
    simpa using this
  have hdr2 : List.drop (w1.length + 1 + 1 + (w2.length + 1)) (c :: (w1 ++ 46 :: e :: (w2 ++ r))) = r := by
    have e1 : c :: (w1 ++ 46 :: e :: (w2 ++ r)) = (c :: w1 ++ 46 :: (e :: w2)) ++ r := by simp
    rw [e1, List.drop_left' (by simp; omega)]
  unfold scanNumber
  simp only [List.headD_cons, List.tail_cons, ne_of_not_letter _ 120 hp rfl, ne_of_not_letter _ 88 hp rfl, ne_of_not_letter _ 98 hp rfl,
    ne_of_not_letter _ 66 hp rfl, ne_of_not_letter _ 111 hp rfl, ne_of_not_letter _ 79 hp rfl, Bool.or_self, Bool.and_false,
    Bool.false_eq_true, if_false, hn1, hdr1, beq_self_eq_true, Bool.true_and, he, if_true, List.drop_succ_cons, List.drop_zero, hn2, hdr2,
    ne_of_not_letter _ 101 hr.1.1 rfl, ne_of_not_letter _ 69 hr.1.1 rfl]
  simp; omega

end Xjs.LP
