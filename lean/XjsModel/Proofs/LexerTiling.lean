import XjsModel.Proofs.Lexer
/-
  Tiling, the token part (the gaps are in `LexerTrivia`): identifier / keyword / number tokens carry exactly the bytes
  they span; where a token's end position lies.
-/
namespace Xjs.Tiling
open Xjs

/-! ### the token itself -/

/-- the token types whose literal is the source text -/
def sliceTypes : List TokType :=
  [.ident, .int, .float, .function, .let_, .if_, .else_, .while_, .for_, .return_, .true_, .false_, .null]

theorem lookupIdent_slice (lit : Bytes) : lookupIdent lit ∈ sliceTypes := by
  rcases lookupIdent_cases lit with h | h
  · rw [h]; decide
  · exact (by decide : ∀ kv ∈ keywordTable, kv.2 ∈ sliceTypes) _ h

def wordTypes : List TokType :=
  [.ident, .function, .let_, .if_, .else_, .while_, .for_, .return_, .true_, .false_, .null]

theorem ops_not_slice : (∀ e ∈ ops1, e.2 ∉ sliceTypes) ∧ (∀ e ∈ ops2, e.2.2 ∉ sliceTypes) := by decide

theorem word_is_slice : ∀ ty ∈ wordTypes, ty ∈ sliceTypes := by decide

/-- identifier, keyword and number tokens carry exactly the bytes the cursor moved over -/
theorem literal_is_slice (nl : Bool) (cs : List Bytes) (s : LS) :
    (baseNextToken nl cs s).1.type ∈ sliceTypes →
      (baseNextToken nl cs s).1.lit ++ (baseNextToken nl cs s).2.rest = s.rest := by
  have hb := baseNextToken_cases nl cs s
  generalize baseNextToken nl cs s = r at hb ⊢
  intro h
  cases hb with
  | one c _ ty hrow => exact absurd h (ops_not_slice.1 _ hrow)
  | two c p _ _ ty hrow => exact absurd h (ops_not_slice.2 _ hrow)
  | bad | eof => simp only [mkTok] at h; exact absurd h (by decide)
  | str | raw => simp only [mkTok] at h; split at h <;> exact absurd h (by decide)
  | word | num => simp only [mkTok, readChars_rest, List.take_append_drop]

/-- a token of identifier or keyword type is classified by the keyword table applied to its own text -/
theorem word_is_classified (nl : Bool) (cs : List Bytes) (s : LS) :
    (baseNextToken nl cs s).1.type ∈ wordTypes →
      (baseNextToken nl cs s).1.type = lookupIdent (baseNextToken nl cs s).1.lit := by
  intro h
  have hs := word_is_slice _ h
  have hb := baseNextToken_cases nl cs s
  generalize baseNextToken nl cs s = r at hb h hs ⊢
  cases hb with
  | one c _ ty hrow => exact absurd hs (ops_not_slice.1 _ hrow)
  | two c p _ _ ty hrow => exact absurd hs (ops_not_slice.2 _ hrow)
  | bad | eof => simp only [mkTok] at h; exact absurd h (by decide)
  | str | raw => simp only [mkTok] at h; split at h <;> exact absurd h (by decide)
  | word => rfl
  | num => rcases scanNumber_type s.rest with e | e <;> simp only [mkTok, e] at h <;> exact absurd h (by decide)

/-- keywords are exactly the entries of the keyword table (which is re-extracted from /repo on every run) -/
theorem keyword_iff (lit : Bytes) (ty : TokType) (hty : ty ≠ .ident) :
    lookupIdent lit = ty ↔ ∃ kv ∈ keywordTable, kv.1 = lit ∧ kv.2 = ty := by
  constructor
  · rintro rfl
    rcases lookupIdent_cases lit with h | h
    · exact absurd h hty
    · exact ⟨_, h, rfl, rfl⟩
  · rintro ⟨kv, hm, rfl, rfl⟩
    -- the keys of the table are pairwise different, so the first match is the entry itself
    exact (by decide : ∀ kv ∈ keywordTable, lookupIdent kv.1 = kv.2) kv hm

/-- the end position recorded in a token is the position of a cursor state `e` reached from the start, and the
    cursor after the token is `e` itself or one byte further: the end lies on, or immediately after, the last byte -/
theorem end_is_cursor (nl : Bool) (cs : List Bytes) (s : LS) :
    ∃ e, Reach s e ∧ ((baseNextToken nl cs s).1.el, (baseNextToken nl cs s).1.ec) = (e.line, e.col) ∧
      ((baseNextToken nl cs s).2 = e ∨ (baseNextToken nl cs s).2 = readChar e) := by
  have hb := baseNextToken_cases nl cs s
  generalize baseNextToken nl cs s = r at hb ⊢
  cases hb with
  | one | bad => exact ⟨s, reach_refl s, rfl, Or.inr rfl⟩
  | two => exact ⟨readChar s, reach_readChar (reach_refl s), rfl, Or.inr rfl⟩
  | str | raw => exact ⟨_, reach_readChars _ (reach_refl s), rfl, Or.inr rfl⟩
  | eof => exact ⟨s, reach_refl s, rfl, Or.inl rfl⟩
  | word | num => exact ⟨_, reach_readChars _ (reach_refl s), rfl, Or.inl rfl⟩

end Xjs.Tiling
