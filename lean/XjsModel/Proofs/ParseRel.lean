import XjsModel.Proofs.ParserSteps
/-
  The parser as a big-step relation. `Parse cfg E c st x st'`: the parser function named by `c`, started in `st`,
  returns `x` and leaves `st'` — one constructor per control path of the Go function. The constructors that record
  an error take a proof of `E`, so `Parse cfg False` is the error-free fragment (the grammar) and `Parse cfg True`
  the whole parser. `Parse.of_mutual` is the only use of the mutual block's `parseStatementI.mutual_partial_correctness`; every
  statement about all runs of the parser is an induction on `Parse`.
-/
namespace Xjs

inductive Kind where
  | stmt | expr | exprs | stmts | props | idents

@[reducible] def Kind.type : Kind → Type
  | .stmt => Stmt
  | .expr => Expr
  | .exprs => ExprList
  | .stmts => StmtList
  | .props => Option PropList
  | .idents => List Ident

/-- the functions of the parser with their arguments other than the state. `endStmt s` is the common tail
    `if !p.ExpectSemicolonASI() { return nil }; return s`; `optExpr stop` an optional clause of `for (…;…;…)`; `funcTail tok name` what
    `ParseFunctionExpression` does after the optional name. -/
inductive Call : Kind → Type where
  | stmtI (is : List SI) : Call .stmt
  | base : Call .stmt
  | letS : Call .stmt
  | funcS : Call .stmt
  | ret : Call .stmt
  | ifS : Call .stmt
  | whileS : Call .stmt
  | forS : Call .stmt
  | block : Call .stmt
  | exprS : Call .stmt
  | endStmt (s : Stmt) : Call .stmt
  | letE : Call .expr
  | forInit : Call .expr
  | optExpr (stop : TokType) : Call .expr
  | exprI (is : List EI) (prec : Nat) : Call .expr
  | remaining (left : Expr) (prec : Nat) : Call .expr
  | prefix : Call .expr
  | infix (left : Expr) : Call .expr
  | objLit : Call .expr
  | funcE : Call .expr
  | funcTail (tok : Token) (name : Option Ident) : Call .expr
  | exprList (endTy : TokType) : Call .exprs
  | exprListLoop (acc : ExprList) : Call .exprs
  | objLoop (acc : PropList) : Call .props
  | blockLoop (acc : StmtList) : Call .stmts
  | programLoop (acc : StmtList) : Call .stmts
  | paramsLoop (acc : List Ident) : Call .idents
  | params : Call .idents

/-- the dispatch of `baseParseStatement` -/
def stmtCall : TokType → Call .stmt
  | .let_ => .letS
  | .function => .funcS
  | .return_ => .ret
  | .if_ => .ifS
  | .while_ => .whileS
  | .for_ => .forS
  | .lbrace => .block
  | _ => .exprS

def Call.run (cfg : PCfg) : {k : Kind} → Call k → PS → Option (k.type × PS)
  | _, .stmtI is => parseStatementI cfg is
  | _, .base => baseParseStatement cfg
  | _, .letS => parseLetStatement cfg
  | _, .funcS => parseFunctionStatement cfg
  | _, .ret => parseReturnStatement cfg
  | _, .ifS => parseIfStatement cfg
  | _, .whileS => parseWhileStatement cfg
  | _, .forS => parseForStatement cfg
  | _, .block => parseBlockStatement cfg
  | _, .exprS => parseExpressionStatement cfg
  | _, .endStmt s => fun st =>
      if !(expectSemiASI cfg st).1 then some (.none, (expectSemiASI cfg st).2) else some (s, (expectSemiASI cfg st).2)
  | _, .letE => parseLetExpression cfg
  | _, .forInit => parseForInit cfg
  | _, .optExpr stop => fun st =>
      if st.peek.type != stop then parseExpressionI cfg cfg.exprI LOWEST st.next else some (.none, st)
  | _, .exprI is prec => parseExpressionI cfg is prec
  | _, .remaining left prec => parseRemaining cfg left prec
  | _, .prefix => parsePrefixExpression cfg
  | _, .infix left => parseInfixExpression cfg left
  | _, .objLit => parseObjectLiteral cfg
  | _, .funcE => parseFunctionExpression cfg
  | _, .funcTail tok name => fun st =>
      let (ok, st) := expectToken .lparen st
      if !ok then some (.none, st) else
      (parseFunctionParameters st) >>= fun (ps, st) =>
        let (ok, st) := expectToken .lbrace st
        if !ok then some (.none, st) else
        (parseBlockStatement cfg (st.push .function)) >>= fun (body, st) =>
          some (.func tok name ps body, st.pop)
  | _, .exprList endTy => parseExpressionList cfg endTy
  | _, .exprListLoop acc => Xjs.exprListLoop cfg acc
  | _, .objLoop acc => objectLoop cfg acc
  | _, .blockLoop acc => Xjs.blockLoop cfg acc
  | _, .programLoop acc => Xjs.programLoop cfg acc
  | _, .paramsLoop acc => Xjs.paramsLoop acc
  | _, .params => parseFunctionParameters

/-- the condition under which the operator loop of `parseRemaining` goes round once more -/
@[reducible] def continues (cfg : PCfg) (prec : Nat) (st : PS) : Bool :=
  (st.peek.type != .semicolon && prec < peekPrecedence cfg st) &&
  !(st.peek.nl && (st.peek.type == .increment || st.peek.type == .decrement)) &&
  !(cfg.smart && st.peek.nl && (st.peek.type == .lparen || st.peek.type == .lbracket))

/-- `return` is followed by a value (restricted production: not across a line break) -/
@[reducible] def returnsValue (st : PS) : Bool :=
  st.peek.type != .semicolon && st.peek.type != .eof && st.peek.type != .rbrace && !st.peek.nl

def compoundOp (tok : Token) : Bytes :=
  if tok.type == .plusAssign then [43] else if tok.type == .minusAssign then [45] else []

@[reducible] def unclosed (cfg : PCfg) (st : PS) : Bool := st.cur.type != .rbrace && !cfg.tolerant

inductive Parse (cfg : PCfg) (E : Prop) : {k : Kind} → Call k → PS → k.type → PS → Prop
  | stmtI_nil : Parse cfg E .base st x st' → Parse cfg E (.stmtI []) st x st'
  | stmtI_cons : Parse cfg E (.stmtI rest) { st with trace := st.trace ++ [st.event false i.id] } x st' →
      Parse cfg E (.stmtI (i :: rest)) st x st'
  | base : Parse cfg E (stmtCall st.cur.type) st x st' → Parse cfg E .base st x st'
  | endStmt : (expectSemiASI cfg st).1 = true → Parse cfg E (.endStmt s) st s (expectSemiASI cfg st).2
  | endStmt_err : E → (expectSemiASI cfg st).1 = false → Parse cfg E (.endStmt s) st .none (expectSemiASI cfg st).2
  | exprS : Parse cfg E (.exprI cfg.exprI LOWEST) st e st1 → Parse cfg E (.endStmt (.exprS e)) st1 x st' →
      Parse cfg E .exprS st x st'
  | letS_err : E → (expectToken .ident st).1 = false → Parse cfg E .letS st .none (expectToken .ident st).2
  | letS_init : (expectToken .ident st).1 = true → (expectToken .ident st).2.peek.type = .assign →
      Parse cfg E (.exprI cfg.exprI LOWEST) (expectToken .ident st).2.next.next v st1 →
      Parse cfg E (.endStmt (.letS st.cur (identOfCur (expectToken .ident st).2) v)) st1 x st' →
      Parse cfg E .letS st x st'
  | letS_bare : (expectToken .ident st).1 = true → (expectToken .ident st).2.peek.type ≠ .assign →
      Parse cfg E (.endStmt (.letS st.cur (identOfCur (expectToken .ident st).2) .none)) (expectToken .ident st).2 x st' →
      Parse cfg E .letS st x st'
  | letE_err : E → (expectToken .ident st).1 = false → Parse cfg E .letE st .none (expectToken .ident st).2
  | letE_init : (expectToken .ident st).1 = true → (expectToken .ident st).2.peek.type = .assign →
      Parse cfg E (.exprI cfg.exprI LOWEST) (expectToken .ident st).2.next.next v st' →
      Parse cfg E .letE st (.letE st.cur (identOfCur (expectToken .ident st).2) v) st'
  | letE_bare : (expectToken .ident st).1 = true → (expectToken .ident st).2.peek.type ≠ .assign →
      Parse cfg E .letE st (.letE st.cur (identOfCur (expectToken .ident st).2) .none) (expectToken .ident st).2
  | funcS_errName : E → (expectToken .ident st).1 = false → Parse cfg E .funcS st .none (expectToken .ident st).2
  | funcS_errParen : E → (expectToken .ident st).1 = true → (expectToken .lparen (expectToken .ident st).2).1 = false →
      Parse cfg E .funcS st .none (expectToken .lparen (expectToken .ident st).2).2
  | funcS_errBrace : E → (expectToken .ident st).1 = true → (expectToken .lparen (expectToken .ident st).2).1 = true →
      Parse cfg E .params (expectToken .lparen (expectToken .ident st).2).2 ps st1 →
      (expectToken .lbrace st1).1 = false → Parse cfg E .funcS st .none (expectToken .lbrace st1).2
  | funcS : (expectToken .ident st).1 = true → (expectToken .lparen (expectToken .ident st).2).1 = true →
      Parse cfg E .params (expectToken .lparen (expectToken .ident st).2).2 ps st1 →
      (expectToken .lbrace st1).1 = true → Parse cfg E .block ((expectToken .lbrace st1).2.push .function) body st2 →
      Parse cfg E .funcS st (.funcD st.cur (identOfCur (expectToken .ident st).2) ps body) st2.pop
  | ret_value : returnsValue st = true → Parse cfg E (.exprI cfg.exprI LOWEST) st.next v st1 →
      Parse cfg E (.endStmt (.ret st.cur v)) st1 x st' → Parse cfg E .ret st x st'
  | ret_bare : returnsValue st = false → Parse cfg E (.endStmt (.ret st.cur .none)) st x st' →
      Parse cfg E .ret st x st'
  | ifS_errParen : E → (expectToken .lparen st).1 = false → Parse cfg E .ifS st .none (expectToken .lparen st).2
  | ifS_errClose : E → (expectToken .lparen st).1 = true →
      Parse cfg E (.exprI cfg.exprI LOWEST) (expectToken .lparen st).2.next c st1 →
      (expectToken .rparen st1).1 = false → Parse cfg E .ifS st .none (expectToken .rparen st1).2
  | ifS_else : (expectToken .lparen st).1 = true →
      Parse cfg E (.exprI cfg.exprI LOWEST) (expectToken .lparen st).2.next c st1 →
      (expectToken .rparen st1).1 = true → Parse cfg E (.stmtI cfg.stmtI) (expectToken .rparen st1).2.next thn st2 →
      st2.peek.type = .else_ → Parse cfg E (.stmtI cfg.stmtI) st2.next.next els st' →
      Parse cfg E .ifS st (.ifS st.cur c thn els) st'
  | ifS_bare : (expectToken .lparen st).1 = true →
      Parse cfg E (.exprI cfg.exprI LOWEST) (expectToken .lparen st).2.next c st1 →
      (expectToken .rparen st1).1 = true → Parse cfg E (.stmtI cfg.stmtI) (expectToken .rparen st1).2.next thn st' →
      st'.peek.type ≠ .else_ → Parse cfg E .ifS st (.ifS st.cur c thn .none) st'
  | whileS_errParen : E → (expectToken .lparen st).1 = false → Parse cfg E .whileS st .none (expectToken .lparen st).2
  | whileS_errClose : E → (expectToken .lparen st).1 = true →
      Parse cfg E (.exprI cfg.exprI LOWEST) (expectToken .lparen st).2.next c st1 →
      (expectToken .rparen st1).1 = false → Parse cfg E .whileS st .none (expectToken .rparen st1).2
  | whileS : (expectToken .lparen st).1 = true →
      Parse cfg E (.exprI cfg.exprI LOWEST) (expectToken .lparen st).2.next c st1 →
      (expectToken .rparen st1).1 = true → Parse cfg E (.stmtI cfg.stmtI) (expectToken .rparen st1).2.next body st' →
      Parse cfg E .whileS st (.whileS st.cur c body) st'
  | forInit_let : st.peek.type ≠ .semicolon → st.next.cur.type = .let_ → Parse cfg E .letE st.next x st' →
      Parse cfg E .forInit st x st'
  | forInit_expr : st.peek.type ≠ .semicolon → st.next.cur.type ≠ .let_ →
      Parse cfg E (.exprI cfg.exprI LOWEST) st.next x st' → Parse cfg E .forInit st x st'
  | forInit_none : st.peek.type = .semicolon → Parse cfg E .forInit st .none st
  | optExpr_some : st.peek.type ≠ stop → Parse cfg E (.exprI cfg.exprI LOWEST) st.next x st' →
      Parse cfg E (.optExpr stop) st x st'
  | optExpr_none : st.peek.type = stop → Parse cfg E (.optExpr stop) st .none st
  | forS_errParen : E → (expectToken .lparen st).1 = false → Parse cfg E .forS st .none (expectToken .lparen st).2
  | forS_errSemi1 : E → (expectToken .lparen st).1 = true → Parse cfg E .forInit (expectToken .lparen st).2 i st1 →
      (expectToken .semicolon st1).1 = false → Parse cfg E .forS st .none (expectToken .semicolon st1).2
  | forS_errSemi2 : E → (expectToken .lparen st).1 = true → Parse cfg E .forInit (expectToken .lparen st).2 i st1 →
      (expectToken .semicolon st1).1 = true → Parse cfg E (.optExpr .semicolon) (expectToken .semicolon st1).2 c st2 →
      (expectToken .semicolon st2).1 = false → Parse cfg E .forS st .none (expectToken .semicolon st2).2
  | forS_errClose : E → (expectToken .lparen st).1 = true → Parse cfg E .forInit (expectToken .lparen st).2 i st1 →
      (expectToken .semicolon st1).1 = true → Parse cfg E (.optExpr .semicolon) (expectToken .semicolon st1).2 c st2 →
      (expectToken .semicolon st2).1 = true → Parse cfg E (.optExpr .rparen) (expectToken .semicolon st2).2 u st3 →
      (expectToken .rparen st3).1 = false → Parse cfg E .forS st .none (expectToken .rparen st3).2
  | forS : (expectToken .lparen st).1 = true → Parse cfg E .forInit (expectToken .lparen st).2 i st1 →
      (expectToken .semicolon st1).1 = true → Parse cfg E (.optExpr .semicolon) (expectToken .semicolon st1).2 c st2 →
      (expectToken .semicolon st2).1 = true → Parse cfg E (.optExpr .rparen) (expectToken .semicolon st2).2 u st3 →
      (expectToken .rparen st3).1 = true → Parse cfg E (.stmtI cfg.stmtI) (expectToken .rparen st3).2.next body st' →
      Parse cfg E .forS st (.forS st.cur i c u body) st'
  | blockLoop_stop : (st.cur.type != .rbrace && st.cur.type != .eof) = false → Parse cfg E (.blockLoop acc) st acc st
  | blockLoop_step : (st.cur.type != .rbrace && st.cur.type != .eof) = true →
      Parse cfg E (.stmtI cfg.stmtI) st s st1 →
      Parse cfg E (.blockLoop (if s.isNone then acc else acc.snoc s)) st1.next x st' →
      Parse cfg E (.blockLoop acc) st x st'
  | block : Parse cfg E (.blockLoop .nil) (st.push .block).next ss st1 → unclosed cfg st1 = false →
      Parse cfg E .block st (.block st.cur ss st1.cur) st1.pop
  | block_unclosed : E → Parse cfg E (.blockLoop .nil) (st.push .block).next ss st1 → unclosed cfg st1 = true →
      Parse cfg E .block st (.block st.cur ss st1.cur)
        (st1.addError (strBytes "unclosed block statement, expected '}'")).pop
  | programLoop_stop : st.cur.type = .eof → Parse cfg E (.programLoop acc) st acc st
  | programLoop_step : st.cur.type ≠ .eof → Parse cfg E (.stmtI cfg.stmtI) st s st1 →
      Parse cfg E (.programLoop (if s.isNone then acc else acc.snoc s)) st1.next x st' →
      Parse cfg E (.programLoop acc) st x st'
  | exprI_nil : Parse cfg E .prefix st left st1 → Parse cfg E (.remaining left prec) st1 x st' →
      Parse cfg E (.exprI [] prec) st x st'
  | exprI_observe : i.kind = .observe →
      Parse cfg E (.exprI rest prec) { st with curPrec := prec, trace := st.trace ++ [st.event true i.id] } x st' →
      Parse cfg E (.exprI (i :: rest) prec) st x { st' with curPrec := st.curPrec }
  | exprI_reenter : i.kind = .reenter →
      Parse cfg E .prefix { st with curPrec := prec, trace := st.trace ++ [st.event true i.id] } left st1 →
      Parse cfg E (.remaining left st1.curPrec) st1 x st' →
      Parse cfg E (.exprI (i :: rest) prec) st x { st' with curPrec := st.curPrec }
  | remaining_stop : continues cfg prec st = false → Parse cfg E (.remaining left prec) st left st
  | remaining_step : continues cfg prec st = true → Parse cfg E (.infix left) st left' st1 →
      Parse cfg E (.remaining left' prec) st1 x st' → Parse cfg E (.remaining left prec) st x st'
  | prefix_err : E → lookup cfg.prefixFns st.cur.type = none →
      Parse cfg E .prefix st .none (st.addError (strBytes "unexpected " ++ st.cur.lit))
  | prefix_ident : lookup cfg.prefixFns st.cur.type = some .ident → Parse cfg E .prefix st (.ident (identOfCur st)) st
  | prefix_int : lookup cfg.prefixFns st.cur.type = some .int → parseIntOk st.cur.lit = true →
      Parse cfg E .prefix st (.int st.cur) st
  | prefix_intErr : E → lookup cfg.prefixFns st.cur.type = some .int → parseIntOk st.cur.lit = false →
      Parse cfg E .prefix st .none
        (st.addError (strBytes "could not parse " ++ quoted st.cur.lit ++ strBytes " as integer"))
  | prefix_float : lookup cfg.prefixFns st.cur.type = some .float → parseFloatOk st.cur.lit = true →
      Parse cfg E .prefix st (.float st.cur) st
  | prefix_floatErr : E → lookup cfg.prefixFns st.cur.type = some .float → parseFloatOk st.cur.lit = false →
      Parse cfg E .prefix st .none
        (st.addError (strBytes "could not parse " ++ quoted st.cur.lit ++ strBytes " as float"))
  | prefix_string : lookup cfg.prefixFns st.cur.type = some .string → Parse cfg E .prefix st (.str st.cur st.cur.lit) st
  | prefix_raw : lookup cfg.prefixFns st.cur.type = some .rawString →
      Parse cfg E .prefix st (.raw st.cur st.cur.lit) st
  | prefix_bool : lookup cfg.prefixFns st.cur.type = some .bool →
      Parse cfg E .prefix st (.bool st.cur (st.cur.type == .true_)) st
  | prefix_null : lookup cfg.prefixFns st.cur.type = some .null → Parse cfg E .prefix st (.null st.cur) st
  | prefix_unary : lookup cfg.prefixFns st.cur.type = some .unary →
      Parse cfg E (.exprI cfg.exprI UNARY) st.next r st' →
      Parse cfg E .prefix st (.unary st.cur st.cur.lit r) st'
  | prefix_group : lookup cfg.prefixFns st.cur.type = some .group →
      Parse cfg E (.exprI cfg.exprI LOWEST) st.next e st1 → (expectToken .rparen st1).1 = true →
      Parse cfg E .prefix st (.group st.cur e (expectToken .rparen st1).2.cur) (expectToken .rparen st1).2
  | prefix_groupErr : E → lookup cfg.prefixFns st.cur.type = some .group →
      Parse cfg E (.exprI cfg.exprI LOWEST) st.next e st1 → (expectToken .rparen st1).1 = false →
      Parse cfg E .prefix st .none (expectToken .rparen st1).2
  | prefix_array : lookup cfg.prefixFns st.cur.type = some .array → Parse cfg E (.exprList .rbracket) st es st' →
      Parse cfg E .prefix st (.array st.cur es st'.cur) st'
  | prefix_object : lookup cfg.prefixFns st.cur.type = some .object → Parse cfg E .objLit st x st' →
      Parse cfg E .prefix st x st'
  | prefix_func : lookup cfg.prefixFns st.cur.type = some .func → Parse cfg E .funcE st x st' →
      Parse cfg E .prefix st x st'
  | infix_none : lookup cfg.infixFns st.peek.type = none → Parse cfg E (.infix left) st left st
  | infix_binary : lookup cfg.infixFns st.peek.type = some .binary →
      Parse cfg E (.exprI cfg.exprI (curPrecedence cfg st.next)) st.next.next r st' →
      Parse cfg E (.infix left) st (.binary st.next.cur left st.next.cur.lit r) st'
  | infix_assign : lookup cfg.infixFns st.peek.type = some .assign →
      Parse cfg E (.exprI cfg.exprI LOWEST) st.next.next v st' →
      Parse cfg E (.infix left) st (.assign st.next.cur left v) st'
  | infix_compound : lookup cfg.infixFns st.peek.type = some .compound → op = compoundOp st.next.cur →
      Parse cfg E (.exprI cfg.exprI LOWEST) st.next.next v st' →
      Parse cfg E (.infix left) st (.compound st.next.cur left op v) st'
  | infix_call : lookup cfg.infixFns st.peek.type = some .call → Parse cfg E (.exprList .rparen) st.next args st' →
      Parse cfg E (.infix left) st (.call st.next.cur left args) st'
  | infix_member : lookup cfg.infixFns st.peek.type = some .member →
      Parse cfg E (.exprI cfg.exprI MEMBER) st.next.next p st' →
      Parse cfg E (.infix left) st (.member st.next.cur left p false) st'
  | infix_index : lookup cfg.infixFns st.peek.type = some .index →
      Parse cfg E (.exprI cfg.exprI LOWEST) st.next.next p st1 → (expectToken .rbracket st1).1 = true →
      Parse cfg E (.infix left) st (.member st.next.cur left p true) (expectToken .rbracket st1).2
  | infix_indexErr : E → lookup cfg.infixFns st.peek.type = some .index →
      Parse cfg E (.exprI cfg.exprI LOWEST) st.next.next p st1 → (expectToken .rbracket st1).1 = false →
      Parse cfg E (.infix left) st .none (expectToken .rbracket st1).2
  | infix_postfix : lookup cfg.infixFns st.peek.type = some .postfix →
      Parse cfg E (.infix left) st (.postfix st.next.cur left st.next.cur.lit) st.next
  | exprList_empty : st.peek.type = endTy → Parse cfg E (.exprList endTy) st .nil st.next
  | exprList : st.peek.type ≠ endTy → Parse cfg E (.exprI cfg.exprI LOWEST) st.next e st1 →
      Parse cfg E (.exprListLoop (.cons e .nil)) st1 es st2 → (expectToken endTy st2).1 = true →
      Parse cfg E (.exprList endTy) st es (expectToken endTy st2).2
  | exprList_err : E → st.peek.type ≠ endTy → Parse cfg E (.exprI cfg.exprI LOWEST) st.next e st1 →
      Parse cfg E (.exprListLoop (.cons e .nil)) st1 es st2 → (expectToken endTy st2).1 = false →
      Parse cfg E (.exprList endTy) st .nil (expectToken endTy st2).2
  | exprListLoop_stop : st.peek.type ≠ .comma → Parse cfg E (.exprListLoop acc) st acc st
  | exprListLoop_step : st.peek.type = .comma → Parse cfg E (.exprI cfg.exprI LOWEST) st.next.next e st1 →
      Parse cfg E (.exprListLoop (acc.snoc e)) st1 x st' → Parse cfg E (.exprListLoop acc) st x st'
  | objLit_empty : st.peek.type = .rbrace → Parse cfg E .objLit st (.object st.cur .nil zeroTok) st.next
  -- no `E`: the error was recorded by the loop, which returns `none` on no other path
  | objLit_errColon : st.peek.type ≠ .rbrace → Parse cfg E (.objLoop .nil) st.next none st' →
      Parse cfg E .objLit st .none st'
  | objLit_errClose : E → st.peek.type ≠ .rbrace → Parse cfg E (.objLoop .nil) st.next (some ps) st1 →
      (expectToken .rbrace st1).1 = false → Parse cfg E .objLit st .none (expectToken .rbrace st1).2
  | objLit : st.peek.type ≠ .rbrace → Parse cfg E (.objLoop .nil) st.next (some ps) st1 →
      (expectToken .rbrace st1).1 = true →
      Parse cfg E .objLit st (.object st.cur ps (expectToken .rbrace st1).2.cur) (expectToken .rbrace st1).2
  | objLoop_err : E → Parse cfg E (.exprI cfg.exprI LOWEST) st key st1 → (expectToken .colon st1).1 = false →
      Parse cfg E (.objLoop acc) st none (expectToken .colon st1).2
  | objLoop_last : Parse cfg E (.exprI cfg.exprI LOWEST) st key st1 → (expectToken .colon st1).1 = true →
      Parse cfg E (.exprI cfg.exprI LOWEST) (expectToken .colon st1).2.next value st' → st'.peek.type ≠ .comma →
      Parse cfg E (.objLoop acc) st (some (acc.snoc key value)) st'
  | objLoop_step : Parse cfg E (.exprI cfg.exprI LOWEST) st key st1 → (expectToken .colon st1).1 = true →
      Parse cfg E (.exprI cfg.exprI LOWEST) (expectToken .colon st1).2.next value st2 → st2.peek.type = .comma →
      Parse cfg E (.objLoop (acc.snoc key value)) st2.next.next x st' → Parse cfg E (.objLoop acc) st x st'
  | funcE_named : st.peek.type = .ident →
      Parse cfg E (.funcTail st.cur (some (identOfCur st.next))) st.next x st' → Parse cfg E .funcE st x st'
  | funcE_anon : st.peek.type ≠ .ident → Parse cfg E (.funcTail st.cur none) st x st' → Parse cfg E .funcE st x st'
  | funcTail_errParen : E → (expectToken .lparen st).1 = false →
      Parse cfg E (.funcTail tok name) st .none (expectToken .lparen st).2
  | funcTail_errBrace : E → (expectToken .lparen st).1 = true → Parse cfg E .params (expectToken .lparen st).2 ps st1 →
      (expectToken .lbrace st1).1 = false → Parse cfg E (.funcTail tok name) st .none (expectToken .lbrace st1).2
  | funcTail : (expectToken .lparen st).1 = true → Parse cfg E .params (expectToken .lparen st).2 ps st1 →
      (expectToken .lbrace st1).1 = true → Parse cfg E .block ((expectToken .lbrace st1).2.push .function) body st2 →
      Parse cfg E (.funcTail tok name) st (.func tok name ps body) st2.pop
  | paramsLoop_stop : st.peek.type ≠ .comma → Parse cfg E (.paramsLoop acc) st acc st
  | paramsLoop_step : st.peek.type = .comma →
      Parse cfg E (.paramsLoop (acc ++ [identOfCur st.next.next])) st.next.next x st' →
      Parse cfg E (.paramsLoop acc) st x st'
  | params_empty : st.peek.type = .rparen → Parse cfg E .params st [] st.next
  | params : st.peek.type ≠ .rparen → Parse cfg E (.paramsLoop [identOfCur st.next]) st.next ps st1 →
      (expectToken .rparen st1).1 = true → Parse cfg E .params st ps (expectToken .rparen st1).2
  | params_err : E → st.peek.type ≠ .rparen → Parse cfg E (.paramsLoop [identOfCur st.next]) st.next ps st1 →
      (expectToken .rparen st1).1 = false → Parse cfg E .params st [] (expectToken .rparen st1).2

/-- `same_path t`, in a case of an induction on `Parse` whose goal is again a `Parse`: the goal by the path of the
    case, its premises by `t`. `constructor` finds the path from the conclusion, except for the paths listed: each of
    them shares its conclusion with an earlier path of its function, whose premises `t` then refuses. -/
macro "same_path " t:tactic : tactic => `(tactic| first
  | (constructor <;> ($t; done)) | (apply Parse.letS_bare <;> ($t; done)) | (apply Parse.letE_bare <;> ($t; done))
  | (apply Parse.ret_bare <;> ($t; done)) | (apply Parse.ifS_bare <;> ($t; done)) | (apply Parse.forInit_expr <;> ($t; done))
  | (apply Parse.forInit_none <;> ($t; done)) | (apply Parse.optExpr_none <;> ($t; done)) | (apply Parse.exprI_reenter <;> ($t; done))
  | (apply Parse.prefix_func <;> ($t; done)) | (apply Parse.objLoop_step <;> ($t; done)) | (apply Parse.funcE_anon <;> ($t; done))
  | (apply Parse.forS_errSemi2 <;> ($t; done)) | (apply Parse.exprList_err <;> ($t; done)) | (apply Parse.objLit_errClose <;> ($t; done))
  | (apply Parse.params_err <;> ($t; done)))

/-- decompose `h : <body of a parse function> = some r` into its atomic facts, one goal per path -/
syntax "pdecomp " ident : tactic
macro_rules
  | `(tactic| pdecomp $h:ident) => `(tactic|
    repeat' (first
      | (obtain ⟨⟨_, _⟩, hx, hy⟩ := bind_some $h; clear $h; have $h:ident := hy; clear hy; try (split at hx <;> try cases hx))
      | (dsimp only at $h:ident)
      | (split at $h:ident)
      | (cases $h:ident)))

/-- closes a leaf of `Parse.of_run`: the first of the given constructors whose premises are facts of the path; a
    premise about a sub-parse is the hypothesis about the function called, or one of the tails -/
syntax "by_ctor" "[" ident,* "]" : tactic
macro_rules
  | `(tactic| by_ctor [$cs,*]) => `(tactic| first
      $[| (apply $cs <;> first
            | assumption | trivial
            | (show Parse _ _ _ _ _ _
               first
                 | (apply_assumption; assumption) | exact .endStmt ‹_› | exact .endStmt_err trivial ‹_›
                 | (apply Parse.optExpr_some <;> first | assumption | (apply_assumption; assumption))
                 | exact .optExpr_none ‹_› | (simp [*]; done))
            | (show continues _ _ _ = _; simp [continues, *]; done)
            | (show _ = compoundOp _; simp [compoundOp, *]; done))]*)

/-- brings the path conditions that `pdecomp` leaves into the form the constructors of `Parse` state them in -/
macro "norm_path" : tactic => `(tactic| try simp only [Bool.not_eq_true', Bool.not_eq_true, Bool.not_eq_false, Bool.not_not, beq_iff_eq, bne_iff_ne, ne_eq,
  Decidable.not_not] at *)

theorem Parse.of_paramsLoop (cfg : PCfg) (acc : List Ident) (st : PS) (r : List Ident × PS)
    (h : paramsLoop acc st = some r) : Parse cfg True (.paramsLoop acc) st r.1 r.2 := by
  refine paramsLoop.partial_correctness (fun acc st r => Parse cfg True (.paramsLoop acc) st r.1 r.2) ?_ acc st r h
  intro f ih acc st r h
  split at h
  · exact .paramsLoop_step (by simp_all) (ih _ _ _ h)
  · cases h; exact .paramsLoop_stop (by simp_all)

theorem Parse.of_params (cfg : PCfg) (st : PS) (x : List Ident) (st' : PS)
    (h : parseFunctionParameters st = some (x, st')) : Parse cfg True .params st x st' := by
  have ih := fun acc st x st' h => Parse.of_paramsLoop cfg acc st (x, st') h
  dsimp only at ih
  unfold parseFunctionParameters at h
  pdecomp h
  all_goals norm_path
  all_goals by_ctor [Parse.params_empty, Parse.params, Parse.params_err]

-- premises are found by `assumption`: it must compare states, not unfold the operations that made them
attribute [local irreducible] expectToken expectSemiASI PS.next PS.push PS.pop PS.addError PS.addErrorAt PS.peek PS.cur in
theorem Parse.of_mutual (cfg : PCfg) :
    (∀ is st r, parseStatementI cfg is st = some r → Parse cfg True (.stmtI is) st r.1 r.2) ∧
    (∀ st r, baseParseStatement cfg st = some r → Parse cfg True .base st r.1 r.2) ∧
    (∀ st r, parseExpressionStatement cfg st = some r → Parse cfg True .exprS st r.1 r.2) ∧
    (∀ is prec st r, parseExpressionI cfg is prec st = some r → Parse cfg True (.exprI is prec) st r.1 r.2) ∧
    (∀ left prec st r, parseRemaining cfg left prec st = some r → Parse cfg True (.remaining left prec) st r.1 r.2) ∧
    (∀ left st r, parseInfixExpression cfg left st = some r → Parse cfg True (.infix left) st r.1 r.2) ∧
    (∀ endTy st r, parseExpressionList cfg endTy st = some r → Parse cfg True (.exprList endTy) st r.1 r.2) ∧
    (∀ acc st r, exprListLoop cfg acc st = some r → Parse cfg True (.exprListLoop acc) st r.1 r.2) ∧
    (∀ st r, parsePrefixExpression cfg st = some r → Parse cfg True .prefix st r.1 r.2) ∧
    (∀ st r, parseFunctionExpression cfg st = some r → Parse cfg True .funcE st r.1 r.2) ∧
    (∀ st r, parseBlockStatement cfg st = some r → Parse cfg True .block st r.1 r.2) ∧
    (∀ acc st r, blockLoop cfg acc st = some r → Parse cfg True (.blockLoop acc) st r.1 r.2) ∧
    (∀ st r, parseObjectLiteral cfg st = some r → Parse cfg True .objLit st r.1 r.2) ∧
    (∀ acc st r, objectLoop cfg acc st = some r → Parse cfg True (.objLoop acc) st r.1 r.2) ∧
    (∀ st r, parseForStatement cfg st = some r → Parse cfg True .forS st r.1 r.2) ∧
    (∀ st r, parseForInit cfg st = some r → Parse cfg True .forInit st r.1 r.2) ∧
    (∀ st r, parseLetExpression cfg st = some r → Parse cfg True .letE st r.1 r.2) ∧
    (∀ st r, parseWhileStatement cfg st = some r → Parse cfg True .whileS st r.1 r.2) ∧
    (∀ st r, parseIfStatement cfg st = some r → Parse cfg True .ifS st r.1 r.2) ∧
    (∀ st r, parseReturnStatement cfg st = some r → Parse cfg True .ret st r.1 r.2) ∧
    (∀ st r, parseFunctionStatement cfg st = some r → Parse cfg True .funcS st r.1 r.2) ∧
    (∀ st r, parseLetStatement cfg st = some r → Parse cfg True .letS st r.1 r.2) := by
  refine parseStatementI.mutual_partial_correctness cfg _ _ _ _ _ _ _ _ _ _ _ _ _ _ _ _ _ _ _ _ _ _
    ?_ ?_ ?_ ?_ ?_ ?_ ?_ ?_ ?_ ?_ ?_ ?_ ?_ ?_ ?_ ?_ ?_ ?_ ?_ ?_ ?_ ?_
  all_goals have ofp := Parse.of_params cfg
  -- `h` is the equation of the function's body; the hypotheses about the functions it calls are put in curried form
  all_goals intros; rename_i r h; obtain ⟨x, st'⟩ := r; simp only [Prod.forall] at *
  · -- parseStatementI
    pdecomp h
    all_goals norm_path
    all_goals by_ctor [Parse.stmtI_nil, Parse.stmtI_cons]
  · -- baseParseStatement
    refine .base ?_
    unfold stmtCall
    split at h <;> simp only [*] <;> apply_assumption <;> assumption
  · -- parseExpressionStatement
    pdecomp h
    all_goals norm_path
    all_goals by_ctor [Parse.exprS]
  · -- parseExpressionI
    pdecomp h
    all_goals norm_path
    all_goals by_ctor [Parse.exprI_nil, Parse.exprI_observe, Parse.exprI_reenter]
  · -- parseRemaining
    pdecomp h
    all_goals norm_path
    all_goals by_ctor [Parse.remaining_stop, Parse.remaining_step]
  · -- parseInfixExpression
    pdecomp h
    all_goals norm_path
    all_goals by_ctor [Parse.infix_none, Parse.infix_binary, Parse.infix_assign, Parse.infix_compound, Parse.infix_call, Parse.infix_member, Parse.infix_index, Parse.infix_indexErr, Parse.infix_postfix]
  · -- parseExpressionList
    pdecomp h
    all_goals norm_path
    all_goals by_ctor [Parse.exprList_empty, Parse.exprList, Parse.exprList_err]
  · -- exprListLoop
    pdecomp h
    all_goals norm_path
    all_goals by_ctor [Parse.exprListLoop_stop, Parse.exprListLoop_step]
  · -- parsePrefixExpression
    pdecomp h
    all_goals norm_path
    all_goals by_ctor [Parse.prefix_err, Parse.prefix_ident, Parse.prefix_int, Parse.prefix_intErr, Parse.prefix_float, Parse.prefix_floatErr, Parse.prefix_string, Parse.prefix_raw, Parse.prefix_bool, Parse.prefix_null, Parse.prefix_unary, Parse.prefix_group, Parse.prefix_groupErr, Parse.prefix_array, Parse.prefix_object, Parse.prefix_func]
  · -- parseFunctionExpression
    pdecomp h
    all_goals norm_path
    all_goals first
      | (refine .funcE_named ‹_› ?_; by_ctor [Parse.funcTail_errParen, Parse.funcTail_errBrace, Parse.funcTail])
      | (refine .funcE_anon ‹_› ?_; by_ctor [Parse.funcTail_errParen, Parse.funcTail_errBrace, Parse.funcTail])
  · -- parseBlockStatement
    pdecomp h
    all_goals norm_path
    -- the body reads the closing token off the state after `addError`, the constructor off the state before
    all_goals try rw [cur_addError]
    all_goals by_ctor [Parse.block, Parse.block_unclosed]
  · -- blockLoop
    pdecomp h
    all_goals norm_path
    all_goals by_ctor [Parse.blockLoop_stop, Parse.blockLoop_step]
  · -- parseObjectLiteral
    pdecomp h
    all_goals norm_path
    all_goals by_ctor [Parse.objLit_empty, Parse.objLit_errColon, Parse.objLit_errClose, Parse.objLit]
  · -- objectLoop
    pdecomp h
    all_goals norm_path
    all_goals by_ctor [Parse.objLoop_err, Parse.objLoop_last, Parse.objLoop_step]
  · -- parseForStatement
    pdecomp h
    all_goals norm_path
    all_goals by_ctor [Parse.forS_errParen, Parse.forS_errSemi1, Parse.forS_errSemi2, Parse.forS_errClose, Parse.forS]
  · -- parseForInit
    pdecomp h
    all_goals norm_path
    all_goals by_ctor [Parse.forInit_let, Parse.forInit_expr, Parse.forInit_none]
  · -- parseLetExpression
    pdecomp h
    all_goals norm_path
    all_goals by_ctor [Parse.letE_err, Parse.letE_init, Parse.letE_bare]
  · -- parseWhileStatement
    pdecomp h
    all_goals norm_path
    all_goals by_ctor [Parse.whileS_errParen, Parse.whileS_errClose, Parse.whileS]
  · -- parseIfStatement
    pdecomp h
    all_goals norm_path
    all_goals by_ctor [Parse.ifS_errParen, Parse.ifS_errClose, Parse.ifS_else, Parse.ifS_bare]
  · -- parseReturnStatement
    pdecomp h
    all_goals norm_path
    all_goals by_ctor [Parse.ret_value, Parse.ret_bare]
  · -- parseFunctionStatement
    pdecomp h
    all_goals norm_path
    all_goals by_ctor [Parse.funcS_errName, Parse.funcS_errParen, Parse.funcS_errBrace, Parse.funcS]
  · -- parseLetStatement
    pdecomp h
    all_goals norm_path
    all_goals by_ctor [Parse.letS_err, Parse.letS_init, Parse.letS_bare]

theorem Parse.of_programLoop (cfg : PCfg) (acc : StmtList) (st : PS) (r : StmtList × PS)
    (h : programLoop cfg acc st = some r) : Parse cfg True (.programLoop acc) st r.1 r.2 := by
  refine programLoop.partial_correctness cfg (fun acc st r => Parse cfg True (.programLoop acc) st r.1 r.2) ?_ acc st r h
  intro f ih acc st r h
  split at h
  · obtain ⟨⟨s, st1⟩, h1, h2⟩ := bind_some h
    exact .programLoop_step (by simp_all) ((Parse.of_mutual cfg).1 _ _ _ h1) (ih _ _ _ h2)
  · cases h; exact .programLoop_stop (by simp_all)

/-- whatever a parser function returns, it returns along one of the paths of `Parse` -/
theorem Parse.of_run {cfg : PCfg} : ∀ {k : Kind} {c : Call k} {st : PS} {r : k.type × PS},
    c.run cfg st = some r → Parse cfg True c st r.1 r.2
  | _, .stmtI _, _, _, h => (of_mutual cfg).1 _ _ _ h
  | _, .base, _, _, h => (of_mutual cfg).2.1 _ _ h
  | _, .exprS, _, _, h => (of_mutual cfg).2.2.1 _ _ h
  | _, .exprI _ _, _, _, h => (of_mutual cfg).2.2.2.1 _ _ _ _ h
  | _, .remaining _ _, _, _, h => (of_mutual cfg).2.2.2.2.1 _ _ _ _ h
  | _, .infix _, _, _, h => (of_mutual cfg).2.2.2.2.2.1 _ _ _ h
  | _, .exprList _, _, _, h => (of_mutual cfg).2.2.2.2.2.2.1 _ _ _ h
  | _, .exprListLoop _, _, _, h => (of_mutual cfg).2.2.2.2.2.2.2.1 _ _ _ h
  | _, .prefix, _, _, h => (of_mutual cfg).2.2.2.2.2.2.2.2.1 _ _ h
  | _, .funcE, _, _, h => (of_mutual cfg).2.2.2.2.2.2.2.2.2.1 _ _ h
  | _, .block, _, _, h => (of_mutual cfg).2.2.2.2.2.2.2.2.2.2.1 _ _ h
  | _, .blockLoop _, _, _, h => (of_mutual cfg).2.2.2.2.2.2.2.2.2.2.2.1 _ _ _ h
  | _, .objLit, _, _, h => (of_mutual cfg).2.2.2.2.2.2.2.2.2.2.2.2.1 _ _ h
  | _, .objLoop _, _, _, h => (of_mutual cfg).2.2.2.2.2.2.2.2.2.2.2.2.2.1 _ _ _ h
  | _, .forS, _, _, h => (of_mutual cfg).2.2.2.2.2.2.2.2.2.2.2.2.2.2.1 _ _ h
  | _, .forInit, _, _, h => (of_mutual cfg).2.2.2.2.2.2.2.2.2.2.2.2.2.2.2.1 _ _ h
  | _, .letE, _, _, h => (of_mutual cfg).2.2.2.2.2.2.2.2.2.2.2.2.2.2.2.2.1 _ _ h
  | _, .whileS, _, _, h => (of_mutual cfg).2.2.2.2.2.2.2.2.2.2.2.2.2.2.2.2.2.1 _ _ h
  | _, .ifS, _, _, h => (of_mutual cfg).2.2.2.2.2.2.2.2.2.2.2.2.2.2.2.2.2.2.1 _ _ h
  | _, .ret, _, _, h => (of_mutual cfg).2.2.2.2.2.2.2.2.2.2.2.2.2.2.2.2.2.2.2.1 _ _ h
  | _, .funcS, _, _, h => (of_mutual cfg).2.2.2.2.2.2.2.2.2.2.2.2.2.2.2.2.2.2.2.2.1 _ _ h
  | _, .letS, _, _, h => (of_mutual cfg).2.2.2.2.2.2.2.2.2.2.2.2.2.2.2.2.2.2.2.2.2 _ _ h
  | _, .programLoop _, _, _, h => of_programLoop cfg _ _ _ h
  | _, .paramsLoop _, _, _, h => of_paramsLoop cfg _ _ _ h
  | _, .params, _, (_, _), h => of_params cfg _ _ _ h
  | _, .endStmt _, st, _, h => by
    simp only [Call.run] at h
    split at h <;> cases h
    · exact .endStmt_err trivial (by simp_all)
    · exact .endStmt (by simp_all)
  | _, .optExpr _, _, _, h => by
    simp only [Call.run] at h
    split at h
    · exact .optExpr_some (by simp_all) ((of_mutual cfg).2.2.2.1 _ _ _ _ h)
    · cases h; exact .optExpr_none (by simp_all)
  | _, .funcTail _ _, _, (_, _), h => by
    simp only [Call.run] at h
    have ofp := of_params cfg
    have ofb := (of_mutual cfg).2.2.2.2.2.2.2.2.2.2.1
    simp only [Prod.forall] at ofb
    pdecomp h
    all_goals norm_path
    all_goals by_ctor [Parse.funcTail_errParen, Parse.funcTail_errBrace, Parse.funcTail]

/-- a statement about what every call returns, read function by function of the mutual block -/
theorem Parse.run_mutual {cfg : PCfg} {M : {k : Kind} → Call k → PS → k.type × PS → Prop}
    (H : ∀ {k : Kind} (c : Call k) (st : PS) (r : k.type × PS), c.run cfg st = some r → M c st r) :
    (∀ is st r, parseStatementI cfg is st = some r → M (.stmtI is) st r) ∧
    (∀ st r, baseParseStatement cfg st = some r → M .base st r) ∧
    (∀ st r, parseExpressionStatement cfg st = some r → M .exprS st r) ∧
    (∀ is prec st r, parseExpressionI cfg is prec st = some r → M (.exprI is prec) st r) ∧
    (∀ left prec st r, parseRemaining cfg left prec st = some r → M (.remaining left prec) st r) ∧
    (∀ left st r, parseInfixExpression cfg left st = some r → M (.infix left) st r) ∧
    (∀ endTy st r, parseExpressionList cfg endTy st = some r → M (.exprList endTy) st r) ∧
    (∀ acc st r, exprListLoop cfg acc st = some r → M (.exprListLoop acc) st r) ∧
    (∀ st r, parsePrefixExpression cfg st = some r → M .prefix st r) ∧
    (∀ st r, parseFunctionExpression cfg st = some r → M .funcE st r) ∧
    (∀ st r, parseBlockStatement cfg st = some r → M .block st r) ∧
    (∀ acc st r, blockLoop cfg acc st = some r → M (.blockLoop acc) st r) ∧
    (∀ st r, parseObjectLiteral cfg st = some r → M .objLit st r) ∧
    (∀ acc st r, objectLoop cfg acc st = some r → M (.objLoop acc) st r) ∧
    (∀ st r, parseForStatement cfg st = some r → M .forS st r) ∧
    (∀ st r, parseForInit cfg st = some r → M .forInit st r) ∧
    (∀ st r, parseLetExpression cfg st = some r → M .letE st r) ∧
    (∀ st r, parseWhileStatement cfg st = some r → M .whileS st r) ∧
    (∀ st r, parseIfStatement cfg st = some r → M .ifS st r) ∧
    (∀ st r, parseReturnStatement cfg st = some r → M .ret st r) ∧
    (∀ st r, parseFunctionStatement cfg st = some r → M .funcS st r) ∧
    (∀ st r, parseLetStatement cfg st = some r → M .letS st r) :=
  ⟨fun is => H (.stmtI is), H .base, H .exprS, fun is prec => H (.exprI is prec), fun left prec => H (.remaining left prec),
   fun left => H (.infix left), fun endTy => H (.exprList endTy), fun acc => H (.exprListLoop acc), H .prefix, H .funcE,
   H .block, fun acc => H (.blockLoop acc), H .objLit, fun acc => H (.objLoop acc), H .forS, H .forInit, H .letE,
   H .whileS, H .ifS, H .ret, H .funcS, H .letS⟩

theorem stmtCall_run (cfg : PCfg) (st : PS) : (stmtCall st.cur.type).run cfg st = baseParseStatement cfg st := by
  rw [baseParseStatement]; unfold stmtCall; split <;> simp only [*, Call.run]

/-- the converse of `Parse.of_run`: a derivation determines what the function returns -/
theorem Parse.run {cfg : PCfg} {E : Prop} {k : Kind} {c : Call k} {st : PS} {x : k.type} {st' : PS}
    (h : Parse cfg E c st x st') : c.run cfg st = some (x, st') := by
  induction h
  case base ih => exact (stmtCall_run cfg _).symm.trans ih
  all_goals simp only [Call.run] at *
  case funcTail_errParen => simp_all
  case funcTail_errBrace => simp_all
  case funcTail => simp_all
  case remaining_stop h => rw [parseRemaining]; (repeat' split) <;> simp_all
  case remaining_step h _ _ ih1 ih2 => rw [parseRemaining]; (repeat' split) <;> simp_all
  case block st1 _ _ hu ih =>
    rw [parseBlockStatement, ih]; dsimp only [Bind.bind, Option.bind]
    rw [show (st1.cur.type != .rbrace && !cfg.tolerant) = false from hu]; rfl
  case block_unclosed st1 _ _ _ hu ih =>
    rw [parseBlockStatement, ih]; dsimp only [Bind.bind, Option.bind]
    rw [show (st1.cur.type != .rbrace && !cfg.tolerant) = true from hu]; rfl
  all_goals first
    | rw [parseStatementI] | rw [parseExpressionStatement] | rw [parseLetStatement] | rw [parseLetExpression]
    | rw [parseFunctionStatement] | rw [parseReturnStatement] | rw [parseIfStatement] | rw [parseWhileStatement]
    | rw [parseForInit] | rw [parseForStatement] | rw [blockLoop] | rw [parseBlockStatement] | rw [programLoop]
    | rw [parseExpressionI] | rw [parseRemaining] | rw [parsePrefixExpression] | rw [parseInfixExpression]
    | rw [parseExpressionList] | rw [exprListLoop] | rw [parseObjectLiteral] | rw [objectLoop]
    | rw [parseFunctionExpression] | rw [paramsLoop] | rw [parseFunctionParameters] | skip
  all_goals (try dsimp only)
  all_goals simp_all [compoundOp]
end Xjs
