import XjsModel.Proofs.PrinterCompact
/-
  C08 (a, d) for compact output: the writer's position bookkeeping.
  Invariant `PosInv`: the mapper's generated position is the line/column of the end of the output written so far,
  and every recorded mapping carries the line/column of a prefix of the output (the prefix that had been written
  when the mapping was recorded). Line/column are those of `advanceBytes` — proved equal to the counting
  specification `Spec.positionAfter` in Proofs/SourceMap.lean.
  Scope: compact mode (in pretty mode the bookkeeping is wrong in the code itself: known finding D12), output
  free of CR bytes (a CR/LF pair split over two writes is counted twice by the mapper, by design of its API).
-/
namespace Xjs

def NoCR (s : Bytes) : Prop := ∀ c ∈ s, c ≠ 13

theorem NoCR.append {a b : Bytes} (ha : NoCR a) (hb : NoCR b) : NoCR (a ++ b) := by
  intro c hc; rcases List.mem_append.mp hc with h | h
  · exact ha c h
  · exact hb c h

theorem advanceBytes_cons (c : Nat) (rest : Bytes) (p : Int × Int) (hc : c ≠ 13) :
    advanceBytes (c :: rest) p = advanceBytes rest (if c = 10 then (p.1 + 1, 0) else (p.1, p.2 + 1)) := by
  obtain ⟨l, col⟩ := p
  by_cases h10 : c = 10
  · subst h10; simp [advanceBytes]
  · rw [advanceBytes]
    · simp [h10]
    all_goals (intros; simp_all)

theorem advanceBytes_append (a b : Bytes) (p : Int × Int) (ha : NoCR a) :
    advanceBytes (a ++ b) p = advanceBytes b (advanceBytes a p) := by
  induction a generalizing p with
  | nil => simp [advanceBytes]
  | cons c a ih =>
    have hc : c ≠ 13 := ha c List.mem_cons_self
    have ha' : NoCR a := fun x hx => ha x (List.mem_cons_of_mem _ hx)
    rw [List.cons_append, advanceBytes_cons _ _ _ hc, advanceBytes_cons _ _ _ hc, ih _ ha']

/-- lexicographic order on (line, column) -/
def le2 (a b : Int × Int) : Prop := a.1 < b.1 ∨ (a.1 = b.1 ∧ a.2 ≤ b.2)
theorem le2_refl (a : Int × Int) : le2 a a := Or.inr ⟨rfl, Int.le_refl _⟩
theorem le2_trans {a b c : Int × Int} (h1 : le2 a b) (h2 : le2 b c) : le2 a c := by
  unfold le2 at *; omega
theorem le2_advanceBytes (s : Bytes) (p : Int × Int) (hs : NoCR s) : le2 p (advanceBytes s p) := by
  induction s generalizing p with
  | nil => simp [advanceBytes]; exact le2_refl _
  | cons c s ih =>
    have hc : c ≠ 13 := hs c List.mem_cons_self
    rw [advanceBytes_cons _ _ _ hc]
    refine le2_trans ?_ (ih _ (fun x hx => hs x (List.mem_cons_of_mem _ hx)))
    unfold le2; split <;> simp <;> omega

def Mapping.gpos (m : Mapping) : Int × Int := (m.genLine, m.genCol)

/-- the recorded mappings are in generated-position order and none lies beyond the current position -/
def SortedUpTo (ms : List Mapping) (cur : Int × Int) : Prop :=
  ms.Pairwise (fun a b => le2 a.gpos b.gpos) ∧ ∀ mp ∈ ms, le2 mp.gpos cur

theorem SortedUpTo.mono {ms : List Mapping} {p q : Int × Int} (h : SortedUpTo ms p) (hpq : le2 p q) : SortedUpTo ms q :=
  ⟨h.1, fun mp hmp => le2_trans (h.2 mp hmp) hpq⟩

theorem SortedUpTo.snoc {ms : List Mapping} {p : Int × Int} (h : SortedUpTo ms p) (x : Mapping) (hx : x.gpos = p) :
    SortedUpTo (ms ++ [x]) p := by
  refine ⟨?_, ?_⟩
  · rw [List.pairwise_append]
    refine ⟨h.1, by simp, ?_⟩
    intro a ha b hb
    simp only [List.mem_singleton] at hb; subst hb
    rw [hx]; exact h.2 a ha
  · intro mp hmp
    simp only [List.mem_append, List.mem_singleton] at hmp
    rcases hmp with hmp | hmp
    · exact h.2 mp hmp
    · subst hmp; rw [hx]; exact le2_refl _

/-- a compact writer with nothing pending and no CR written: the mapper stands at the position of the end of the output,
    every recorded mapping at the position of a prefix of it, in order -/
structure PosInv (cw : CW) : Prop where
  compact : cw.pretty = false
  pend : cw.pendings = []
  nocr : NoCR cw.out
  pos : ∀ m, cw.mapper = some m → (m.genLine, m.genCol) = advanceBytes cw.out (0, 0)
  maps : ∀ m, cw.mapper = some m → ∀ mp ∈ m.mappings,
    ∃ pre, pre <+: cw.out ∧ (mp.genLine, mp.genCol) = advanceBytes pre (0, 0)
  sorted : ∀ m, cw.mapper = some m → SortedUpTo m.mappings (m.genLine, m.genCol)

/-- the writer appends `s` while the mapper moves by `f`, which records nothing and takes the position behind `s` -/
theorem PosInv.append {cw : CW} (h : PosInv cw) (s : Bytes) (hs : NoCR s) (f : Mapper → Mapper)
    (hm : ∀ m, (f m).mappings = m.mappings)
    (hp : ∀ m, ((f m).genLine, (f m).genCol) = advanceBytes s (m.genLine, m.genCol)) :
    PosInv { cw with out := cw.out ++ s, mapper := cw.mapper.map f } := by
  refine ⟨h.compact, h.pend, h.nocr.append hs, ?_, ?_, ?_⟩
  · intro m' hm'
    obtain ⟨m, hm0, rfl⟩ := Option.map_eq_some_iff.mp hm'
    rw [hp, advanceBytes_append _ _ _ h.nocr, ← h.pos m hm0]
  · intro m' hm' mp hmp
    obtain ⟨m, hm0, rfl⟩ := Option.map_eq_some_iff.mp hm'
    rw [hm] at hmp
    obtain ⟨pre, hpre, he⟩ := h.maps m hm0 mp hmp
    exact ⟨pre, hpre.trans (List.prefix_append _ _), he⟩
  · intro m' hm'
    obtain ⟨m, hm0, rfl⟩ := Option.map_eq_some_iff.mp hm'
    rw [hm, hp]
    exact (h.sorted m hm0).mono (le2_advanceBytes s _ hs)

/-- the mapper records one mapping `x` at its current position and stays where it is -/
theorem PosInv.record {cw : CW} (h : PosInv cw) (f : Mapper → Mapper)
    (hp : ∀ m, ((f m).genLine, (f m).genCol) = (m.genLine, m.genCol))
    (hm : ∀ m, ∃ x, (f m).mappings = m.mappings ++ [x] ∧ x.gpos = (m.genLine, m.genCol)) :
    PosInv { cw with mapper := cw.mapper.map f } := by
  refine ⟨h.compact, h.pend, h.nocr, ?_, ?_, ?_⟩
  · intro m' hm'
    obtain ⟨m, hm0, rfl⟩ := Option.map_eq_some_iff.mp hm'
    rw [hp]; exact h.pos m hm0
  · intro m' hm' mp hmp
    obtain ⟨m, hm0, rfl⟩ := Option.map_eq_some_iff.mp hm'
    obtain ⟨x, hx, hg⟩ := hm m
    rw [hx, List.mem_append, List.mem_singleton] at hmp
    rcases hmp with hmp | rfl
    · exact h.maps m hm0 mp hmp
    · exact ⟨cw.out, List.prefix_refl _, hg.trans (h.pos m hm0)⟩
  · intro m' hm'
    obtain ⟨m, hm0, rfl⟩ := Option.map_eq_some_iff.mp hm'
    obtain ⟨x, hx, hg⟩ := hm m
    rw [hx, hp]
    exact (h.sorted m hm0).snoc x hg

theorem PosInv.writeString {cw : CW} (h : PosInv cw) (s : Bytes) (hs : NoCR s) : PosInv (cw.writeString s) := by
  unfold CW.writeString
  rw [flushPending_id h.pend, mapAdvance_eq]
  exact h.append s hs _ (fun _ => rfl) (fun _ => rfl)

theorem PosInv.writeRune {cw : CW} (h : PosInv cw) (r : Nat) (hr : r ≠ 13) : PosInv (cw.writeRune r) := by
  unfold CW.writeRune
  rw [flushPending_id h.pend, mapAdvance_eq]
  refine h.append [r] (by intro c hc; simp at hc; subst hc; exact hr) _ ?_ ?_
  · intro m; split <;> rfl
  · intro m
    rw [advanceBytes_cons _ _ _ hr]
    by_cases h10 : r = 10
    · simp [h10, Mapper.advanceLine, advanceBytes]
    · simp [h10, Mapper.advanceColumn, advanceBytes]

theorem PosInv.addMapping {cw : CW} (h : PosInv cw) (a b : Nat) : PosInv (cw.addMapping a b) := by
  unfold CW.addMapping
  rw [mapAdvance_eq]
  exact h.record _ (fun _ => rfl) (fun _ => ⟨_, rfl, rfl⟩)

theorem PosInv.addNamedMapping {cw : CW} (h : PosInv cw) (a b : Nat) (n : Bytes) : PosInv (cw.addNamedMapping a b n) := by
  unfold CW.addNamedMapping
  rw [mapAdvance_eq]
  refine h.record _ ?_ ?_ <;> intro m <;> unfold Mapper.addNamedMapping <;> split
  · rfl
  · rfl
  · exact ⟨_, rfl, rfl⟩
  · exact ⟨_, rfl, rfl⟩

theorem PosInv.panic {cw : CW} (h : PosInv cw) : PosInv cw.panic := ⟨h.compact, h.pend, h.nocr, h.pos, h.maps, h.sorted⟩

theorem PosInv.writeSpace {cw : CW} (h : PosInv cw) : PosInv cw.writeSpace := by rw [writeSpace_compact h.compact]; exact h
theorem PosInv.writeNewline {cw : CW} (h : PosInv cw) : PosInv cw.writeNewline := by rw [writeNewline_compact h.compact]; exact h
theorem PosInv.writeIndent {cw : CW} (h : PosInv cw) : PosInv cw.writeIndent := by rw [writeIndent_compact h.compact]; exact h
theorem PosInv.increaseIndent {cw : CW} (h : PosInv cw) : PosInv cw.increaseIndent := by rw [increaseIndent_compact h.compact]; exact h
theorem PosInv.decreaseIndent {cw : CW} (h : PosInv cw) : PosInv cw.decreaseIndent := by rw [decreaseIndent_compact h.compact]; exact h
theorem PosInv.leadingComments {cw : CW} (h : PosInv cw) (cs : List Bytes) : PosInv (cw.leadingComments cs) := by
  rw [leadingComments_compact _ _ h.compact]; exact h
theorem PosInv.writeSemi {cw : CW} (h : PosInv cw) : PosInv cw.writeSemi := by
  unfold CW.writeSemi; simp only [h.compact]; exact h.writeRune 59 (by decide)
theorem PosInv.separateSigns {cw : CW} (h : PosInv cw) (op : Bytes) : PosInv (cw.separateSigns op) := by
  unfold CW.separateSigns
  split
  · exact h
  · split
    · exact h
    · dsimp only; rw [flushPending_id h.pend]; split
      · exact h.writeRune 32 (by decide)
      · exact h
theorem PosInv.head {cw : CW} (h : PosInv cw) (t : Token) : PosInv (cw.head t) := by
  unfold CW.head; exact (h.leadingComments _).addMapping _ _
theorem PosInv.openIf {cw : CW} (h : PosInv cw) (b : Bool) : PosInv (cw.openIf b) := by
  unfold CW.openIf; split; exact h.writeRune 40 (by decide); exact h
theorem PosInv.closeIf {cw : CW} (h : PosInv cw) (b : Bool) : PosInv (cw.closeIf b) := by
  unfold CW.closeIf; split; exact h.writeRune 41 (by decide); exact h
theorem PosInv.sepIf {cw : CW} (h : PosInv cw) (b : Bool) : PosInv (cw.sepIf b) := by
  unfold CW.sepIf; split; exact h; exact (h.writeRune 44 (by decide)).writeSpace
theorem PosInv.newlineIf {cw : CW} (h : PosInv cw) (b : Bool) : PosInv (cw.newlineIf b) := by
  unfold CW.newlineIf; split; exact h; exact h.writeNewline
theorem PosInv.writeIdent {cw : CW} (h : PosInv cw) (id : Ident) (hv : NoCR id.value) : PosInv (writeIdent id cw) := by
  unfold Xjs.writeIdent; exact ((h.leadingComments _).addNamedMapping _ _ _).writeString _ hv

def bnocr (s : Bytes) : Bool := s.all (· != 13)
theorem NoCR_of_bnocr {s : Bytes} (h : bnocr s = true) : NoCR s := by
  intro c hc; have := List.all_eq_true.mp h c hc; simpa using this

def identNocr (id : Ident) : Bool := bnocr id.value

theorem PosInv.writeParams {cw : CW} (ps : List Ident) (f : Bool) (h : PosInv cw) (hp : ps.all identNocr = true) :
    PosInv (Xjs.writeParams ps f cw) := by
  induction ps generalizing f cw with
  | nil => exact h
  | cons p rest ih =>
    simp only [List.all_cons, Bool.and_eq_true] at hp
    exact ih _ ((h.sepIf f).writeIdent p (NoCR_of_bnocr hp.1)) hp.2

theorem NoCR_strBytes (s : String) (h : ∀ c ∈ strBytes s, c ≠ 13 := by decide) : NoCR (strBytes s) := h

theorem NoCR_escBackticks {v : Bytes} (h : NoCR v) : NoCR (escBackticks v) := by
  intro c hc
  simp only [escBackticks, List.mem_flatMap] at hc
  obtain ⟨y, hy, hcy⟩ := hc
  split at hcy
  · simp at hcy; rcases hcy with rfl | rfl <;> decide
  · simp at hcy; rw [hcy]; exact h y hy

/-! ### trees whose written strings contain no CR -/

mutual
  def Expr.nocr : Expr → Bool
    | .none => true
    | .ident id => identNocr id
    | .int tok | .float tok => bnocr tok.lit
    | .str _ v | .raw _ v => bnocr v
    | .bool tok _ => bnocr tok.lit
    | .null _ => true
    | .letE _ name v => identNocr name && v.nocr
    | .binary _ l op r => l.nocr && bnocr op && r.nocr
    | .unary _ op r => bnocr op && r.nocr
    | .postfix _ l op => l.nocr && bnocr op
    | .group _ e _ => e.nocr
    | .call _ f args => f.nocr && args.nocr
    | .member _ o p _ => o.nocr && p.nocr
    | .assign _ l v => l.nocr && v.nocr
    | .compound _ l op v => l.nocr && bnocr op && v.nocr
    | .func _ name params body => (match name with | some n => identNocr n | none => true) && params.all identNocr && body.nocr
    | .array _ es _ => es.nocr
    | .object _ ps _ => ps.nocr
  def Stmt.nocr : Stmt → Bool
    | .none => true
    | .letS _ name v => identNocr name && v.nocr
    | .ret _ v => v.nocr
    | .exprS e => e.nocr
    | .funcD _ name params body => identNocr name && params.all identNocr && body.nocr
    | .block _ ss _ => ss.nocr
    | .ifS _ c t e => c.nocr && t.nocr && e.nocr
    | .whileS _ c b => c.nocr && b.nocr
    | .forS _ i c u b => i.nocr && c.nocr && u.nocr && b.nocr
  def ExprList.nocr : ExprList → Bool
    | .nil => true
    | .cons e t => e.nocr && t.nocr
  def StmtList.nocr : StmtList → Bool
    | .nil => true
    | .cons s t => s.nocr && t.nocr
  def PropList.nocr : PropList → Bool
    | .nil => true
    | .cons k v t => k.nocr && v.nocr && t.nocr
end

/-- one printer step on the invariant -/
macro "pos_step" : tactic => `(tactic| first
  | assumption
  | apply PosInv.panic
  | (refine PosInv.writeString ?_ _ (by first | exact NoCR_of_bnocr (by assumption) | exact NoCR_of_bnocr (by decide +kernel) | exact NoCR_escBackticks (NoCR_of_bnocr (by assumption))))
  | (refine PosInv.writeRune ?_ _ (by decide))
  | apply PosInv.writeSemi
  | apply PosInv.separateSigns
  | apply PosInv.increaseIndent
  | apply PosInv.decreaseIndent
  | apply PosInv.writeIndent
  | apply PosInv.writeNewline
  | apply PosInv.writeSpace
  | apply PosInv.leadingComments
  | apply PosInv.addMapping
  | apply PosInv.head
  | (refine PosInv.writeIdent ?_ _ (NoCR_of_bnocr (by assumption)))
  | (refine PosInv.writeParams _ _ ?_ (by assumption))
  | apply PosInv.openIf
  | apply PosInv.closeIf
  | apply PosInv.sepIf
  | apply PosInv.newlineIf)

end Xjs
