import XjsModel.Proofs.ParserTol
/-
  The tolerant-mode pass (C13 a): every strict-mode run either recorded an error or is, step for step, also the
  tolerant-mode run.
-/
namespace Xjs

/-- what `tol_mutual` says of a function `f` of the tolerant parser and a strict-mode run from `st` with result `r` -/
def TolM {α : Type} (f : PS → Option (α × PS)) (st : PS) (r : α × PS) : Prop :=
  st.elen ≤ r.2.elen ∧ (f st = some r ∨ st.elen < r.2.elen)

-- as in `Parse.of_mutual`: the premises of a path are compared with the hypotheses, not unfolded
attribute [local irreducible] expectToken expectSemiASI PS.next PS.push PS.pop PS.addError PS.addErrorAt PS.peek PS.cur in
/-- An error-free strict-mode run is, path for path, a tolerant-mode run. The mode is read in two places: at the end of
    a statement, where strict mode accepted, and at the end of a block. -/
theorem Parse.tol {cfg : PCfg} {k : Kind} {c : Call k} {st : PS} {x : k.type} {st' : PS}
    (h : Parse cfg.strict False c st x st') : Parse cfg.tol False c st x st' := by
  induction h
  -- the paths that record an error
  any_goals (exfalso; assumption)
  case endStmt h =>
    have e := tol_expectSemi_of_ok cfg _ h
    rw [← e] at h ⊢
    exact .endStmt h
  case block ih => exact .block ih (tol_unclosed cfg _)
  all_goals same_path assumption

theorem tol_run {cfg : PCfg} {k : Kind} (c : Call k) {st : PS} {r : k.type × PS} (h : c.run cfg.strict st = some r) :
    TolM (c.run cfg.tol) st r :=
  (Parse.of_run h).ok_or_err fun hf => hf.tol.run

theorem tol_mutual (cfg : PCfg) :
    (∀ is st r, parseStatementI cfg.strict is st = some r → TolM (parseStatementI cfg.tol is) st r) ∧
    (∀ st r, baseParseStatement cfg.strict st = some r → TolM (baseParseStatement cfg.tol) st r) ∧
    (∀ st r, parseExpressionStatement cfg.strict st = some r → TolM (parseExpressionStatement cfg.tol) st r) ∧
    (∀ is prec st r, parseExpressionI cfg.strict is prec st = some r → TolM (parseExpressionI cfg.tol is prec) st r) ∧
    (∀ left prec st r, parseRemaining cfg.strict left prec st = some r → TolM (parseRemaining cfg.tol left prec) st r) ∧
    (∀ left st r, parseInfixExpression cfg.strict left st = some r → TolM (parseInfixExpression cfg.tol left) st r) ∧
    (∀ endTy st r, parseExpressionList cfg.strict endTy st = some r → TolM (parseExpressionList cfg.tol endTy) st r) ∧
    (∀ acc st r, exprListLoop cfg.strict acc st = some r → TolM (exprListLoop cfg.tol acc) st r) ∧
    (∀ st r, parsePrefixExpression cfg.strict st = some r → TolM (parsePrefixExpression cfg.tol) st r) ∧
    (∀ st r, parseFunctionExpression cfg.strict st = some r → TolM (parseFunctionExpression cfg.tol) st r) ∧
    (∀ st r, parseBlockStatement cfg.strict st = some r → TolM (parseBlockStatement cfg.tol) st r) ∧
    (∀ acc st r, blockLoop cfg.strict acc st = some r → TolM (blockLoop cfg.tol acc) st r) ∧
    (∀ st r, parseObjectLiteral cfg.strict st = some r → TolM (parseObjectLiteral cfg.tol) st r) ∧
    (∀ acc st r, objectLoop cfg.strict acc st = some r → TolM (objectLoop cfg.tol acc) st r) ∧
    (∀ st r, parseForStatement cfg.strict st = some r → TolM (parseForStatement cfg.tol) st r) ∧
    (∀ st r, parseForInit cfg.strict st = some r → TolM (parseForInit cfg.tol) st r) ∧
    (∀ st r, parseLetExpression cfg.strict st = some r → TolM (parseLetExpression cfg.tol) st r) ∧
    (∀ st r, parseWhileStatement cfg.strict st = some r → TolM (parseWhileStatement cfg.tol) st r) ∧
    (∀ st r, parseIfStatement cfg.strict st = some r → TolM (parseIfStatement cfg.tol) st r) ∧
    (∀ st r, parseReturnStatement cfg.strict st = some r → TolM (parseReturnStatement cfg.tol) st r) ∧
    (∀ st r, parseFunctionStatement cfg.strict st = some r → TolM (parseFunctionStatement cfg.tol) st r) ∧
    (∀ st r, parseLetStatement cfg.strict st = some r → TolM (parseLetStatement cfg.tol) st r) :=
  Parse.run_mutual (cfg := cfg.strict) (M := fun c st r => TolM (c.run cfg.tol) st r) fun c _ _ => tol_run c

end Xjs
