import XjsModel.Proofs.RaStmt
/-
  Round trip: the induction over the (mutually inductive) spec trees — structural recursion, each case
  discharged by its lemma in `RaLemmas` / `RaCases` / `RaStmt`.
-/
namespace Xjs.RA
open Xjs

variable {cfg : PCfg}

variable {tol sm : Bool}

mutual
  theorem main (hc : BaseCfg cfg) (htol : tol = true → cfg.tolerant = true) (hsm : sm = true → cfg.smart = true) : ∀ (s : SE), s.wf = true → s.lay tol sm = true → Main cfg s
    | .atom t, hw, _ => case_atom hc t hw
    | .grp lp e rp, hw, hl => by
      have h := hw
      simp only [SE.wf, SE.lay, Bool.and_eq_true] at h hl
      exact case_grp hc lp e rp hw (main hc htol hsm e h.2 hl)
    | .un t r, hw, hl => by
      have h := hw
      simp only [SE.wf, SE.lay, Bool.and_eq_true] at h hl
      exact case_un hc t r hw (main hc htol hsm r h.2 hl)
    | .bin t l r, hw, hl => by
      have h := hw
      simp only [SE.wf, SE.lay, Bool.and_eq_true] at h hl
      exact case_bin hc t l r hw (main hc htol hsm l h.1.2 hl.1) (main hc htol hsm r h.2 hl.2)
    | .post t l, hw, hl => by
      have h := hw
      simp only [SE.wf, SE.lay, Bool.and_eq_true] at h hl
      exact case_post hc t l hw (main hc htol hsm l h.1.2 hl)
    | .call t f args, hw, hl => by
      have h := hw
      simp only [SE.wf, SE.lay, Bool.and_eq_true] at h hl
      exact case_call hc t f args hw (main hc htol hsm f h.1.2 hl.1) (mainList hc htol hsm args h.2 hl.2).1
    | .dot t o p, hw, hl => by
      have h := hw
      simp only [SE.wf, SE.lay, Bool.and_eq_true] at h hl
      exact case_dot hc t o p hw (main hc htol hsm o h.1.2 hl)
    | .idx t o p, hw, hl => by
      have h := hw
      simp only [SE.wf, SE.lay, Bool.and_eq_true] at h hl
      exact case_idx hc t o p hw (main hc htol hsm o h.1.2 hl.1) (main hc htol hsm p h.2 hl.2)
    | .asg t l v, hw, hl => by
      have h := hw
      simp only [SE.wf, SE.lay, Bool.and_eq_true] at h hl
      exact case_asg hc t l v hw (main hc htol hsm l h.1.2 hl.1) (main hc htol hsm v h.2 hl.2)
    | .casg t l v, hw, hl => by
      have h := hw
      simp only [SE.wf, SE.lay, Bool.and_eq_true] at h hl
      exact case_casg hc t l v hw (main hc htol hsm l h.1.2 hl.1) (main hc htol hsm v h.2 hl.2)
    | .arr t es, hw, hl => by
      have h := hw
      simp only [SE.wf, SE.lay, Bool.and_eq_true] at h hl
      exact case_arr hc t es hw (mainList hc htol hsm es h.2 hl).1
    | .func t name ps body, hw, hl => by
      have h := hw
      simp only [SE.wf, SE.lay, Bool.and_eq_true] at h hl
      exact case_func hc t name ps body hw (blockInv hc htol hsm body h.2 rbrT hl)
    | .obj t ps, hw, hl => by
      have h := hw
      simp only [SE.wf, SE.lay, Bool.and_eq_true] at h hl
      exact case_obj hc t ps hw (mainProps hc htol hsm ps h.2 hl)
  theorem mainList (hc : BaseCfg cfg) (htol : tol = true → cfg.tolerant = true) (hsm : sm = true → cfg.smart = true) :
      ∀ (es : SEList), es.wf = true → es.lay tol sm = true → MainList cfg es ∧ LoopInv cfg es
    | .nil, _, _ => ⟨list_nil, loop_nil⟩
    | .cons e rest, hw, hl => by
      simp only [SEList.wf, SEList.lay, Bool.and_eq_true] at hw hl
      have ihe := main hc htol hsm e hw.1 hl.1
      have ihl := (mainList hc htol hsm rest hw.2 hl.2).2
      exact ⟨list_cons hc e rest hw.1 ihe ihl, loop_cons hc e rest hw.1 ihe ihl⟩
  theorem mainProps (hc : BaseCfg cfg) (htol : tol = true → cfg.tolerant = true) (hsm : sm = true → cfg.smart = true) :
      ∀ (ps : SPList), ps.wf = true → ps.lay tol sm = true → PropsInv cfg ps
    | .nil, _, _ => props_nil
    | .cons k v rest, hw, hl => by
      simp only [SPList.wf, SPList.lay, Bool.and_eq_true] at hw hl
      exact props_cons hc k v rest hw.1.1 hw.1.2 (main hc htol hsm k hw.1.1 hl.1.1) (main hc htol hsm v hw.1.2 hl.1.2)
        (mainProps hc htol hsm rest hw.2 hl.2)
  theorem stmtMain (hc : BaseCfg cfg) (htol : tol = true → cfg.tolerant = true) (hsm : sm = true → cfg.smart = true) :
      ∀ (s : SS), s.wf = true → s.lay tol sm = true → StmtMain cfg tol sm s
    | .exprS e semi, hw, hl => by
      have h := hw
      simp only [SS.wf, SS.lay, Bool.and_eq_true] at h hl
      exact case_exprS hc htol hsm e semi hw (main hc htol hsm e h.1.1 hl)
    | .letS t name v semi, hw, hl => by
      have h := hw
      simp only [SS.wf, SS.lay, Bool.and_eq_true] at h hl
      exact case_letS hc htol hsm t name v semi hw (main hc htol hsm v h.2 hl)
    | .letN t name, hw, _ => case_letN hc t name hw
    | .ret t v semi, hw, hl => by
      have h := hw
      simp only [SS.wf, SS.lay, Bool.and_eq_true] at h hl
      exact case_ret hc htol hsm t v semi hw (main hc htol hsm v h.1.2 hl)
    | .retN t, hw, _ => case_retN hc t hw
    | .ifS t c thn, hw, hl => by
      have h := hw
      simp only [SS.wf, SS.lay, Bool.and_eq_true] at h hl
      exact case_ifS hc t c thn hw (main hc htol hsm c h.1.2 hl.1) (stmtMain hc htol hsm thn h.2 hl.2)
    | .ifElse t c thn el els, hw, hl => by
      have h := hw
      simp only [SS.wf, SS.lay, Bool.and_eq_true] at h hl
      exact case_ifElse hc t c thn el els hw hl.1.2 (main hc htol hsm c h.1.1.1.1.2 hl.1.1.1)
        (stmtMain hc htol hsm thn h.1.1.1.2 hl.1.1.2) (stmtMain hc htol hsm els h.1.2 hl.2)
    | .whileS t c body, hw, hl => by
      have h := hw
      simp only [SS.wf, SS.lay, Bool.and_eq_true] at h hl
      exact case_whileS hc t c body hw (main hc htol hsm c h.1.2 hl.1) (stmtMain hc htol hsm body h.2 hl.2)
    | .forS t i c u body, hw, hl => by
      have h := hw
      simp only [SS.wf, SS.lay, Bool.and_eq_true] at h hl
      exact case_forS hc t i c u body hw (initMain hc htol hsm i h.1.1.1.2 hl.1.1.1) (optMain hc htol hsm c h.1.1.2 hl.1.1.2)
        (optMain hc htol hsm u h.1.2 hl.1.2) (stmtMain hc htol hsm body h.2 hl.2)
    | .block body, hw, hl => by
      simp only [SS.wf, SS.lay] at hw hl
      exact case_block hc body (blockInv hc htol hsm body hw rbrT hl)
    | .funcD t name ps body, hw, hl => by
      have h := hw
      simp only [SS.wf, SS.lay, Bool.and_eq_true] at h hl
      exact case_funcD hc t name ps body hw (blockInv hc htol hsm body h.2 rbrT hl)
  theorem blockInv (hc : BaseCfg cfg) (htol : tol = true → cfg.tolerant = true) (hsm : sm = true → cfg.smart = true) :
      ∀ (ss : SSList), ss.wf = true → ∀ (closer : Token), ss.lay tol sm closer = true → BlockInv cfg ss closer
    | .nil, _, closer, _ => block_nil closer
    | .cons s rest, hw, closer, hl => by
      simp only [SSList.wf, SSList.lay, Bool.and_eq_true] at hw hl
      exact block_cons s rest closer hw.1 hl.1.2 (stmtMain hc htol hsm s hw.1 hl.1.1) (blockInv hc htol hsm rest hw.2 closer hl.2)
  theorem optMain (hc : BaseCfg cfg) (htol : tol = true → cfg.tolerant = true) (hsm : sm = true → cfg.smart = true) : ∀ (o : SOpt), o.wf = true → o.lay tol sm = true → OptMain cfg o
    | .none, _, _ => trivial
    | .some e, hw, hl => main hc htol hsm e hw hl
  theorem initMain (hc : BaseCfg cfg) (htol : tol = true → cfg.tolerant = true) (hsm : sm = true → cfg.smart = true) : ∀ (i : SInit), i.wf = true → i.lay tol sm = true → InitMain cfg i
    | .none, _, _ => trivial
    | .letN _ _, _, _ => trivial
    | .expr e, hw, hl => main hc htol hsm e hw hl
    | .letV t name v, hw, hl => by
      simp only [SInit.wf, SInit.lay, Bool.and_eq_true] at hw hl
      exact main hc htol hsm v hw.2 hl
end

/-- THE ROUND TRIP for expressions: what the printer emits for a tree is parsed back to that tree, the cursor ending
    on the last token of the expression -/
theorem print_then_parse (hc : BaseCfg cfg) (htol : tol = true → cfg.tolerant = true) (hsm : sm = true → cfg.smart = true) (s : SE) (hw : s.wf = true)
    (hl : s.lay tol sm = true) (p : Nat) (st : PS) (rest : List Token)
    (hr : rest ≠ []) (ht : st.toks = s.toks ++ rest) (hf : s.fits p) (hs : stops cfg s.rbl rest) (hq : stops cfg p rest) :
    parseExpressionI cfg [] p st = some (s.tree, nextK (s.toks.length - 1) st) :=
  eval_of_main s (main hc htol hsm s hw hl) p st rest hr ht hf hs hq

/-- the statement loop of `ParseProgram`, up to the end-of-input token -/
theorem prog_inv (hc : BaseCfg cfg) (htol : tol = true → cfg.tolerant = true) (hsm : sm = true → cfg.smart = true)
    (eofTok : Token) (he : eofTok.type = .eof) :
    ∀ (ss : SSList), ss.wf = true → ss.lay tol sm eofTok = true → LoopAt (programLoop cfg) ss [eofTok]
  | .nil, _, _ => loopAt_nil programLoop_loop eofTok [] (by rw [he]; rfl)
  | .cons s ss, hw, hl => by
    simp only [SSList.wf, SSList.lay, Bool.and_eq_true] at hw hl
    exact loopAt_cons programLoop_loop s ss eofTok [] hw.1 hl.1.2 (stmtMain hc htol hsm s hw.1 hl.1.1)
      (prog_inv hc htol hsm eofTok he ss hw.2 hl.2)

theorem nextK_errors (k : Nat) (st : PS) : (nextK k st).errors = st.errors := by
  induction k generalizing st with
  | zero => rfl
  | succ k ih => rw [nextK, ih, next_errors']

/-- THE ROUND TRIP FOR PROGRAMS: the token sequence of any well-formed program tree in any admissible layout of statement
    terminators (`;` written, or left to automatic insertion where `lay` allows it), followed by the end-of-input token, is
    parsed to exactly that tree, without any error. `tol = false`: every mode; `tol = true`: the tolerant modes. -/
theorem program_round_trip (hc : BaseCfg cfg) (htol : tol = true → cfg.tolerant = true) (hsm : sm = true → cfg.smart = true) (prog : SSList) (hw : prog.wf = true)
    (eofTok : Token) (he : eofTok.type = .eof) (hl : prog.lay tol sm eofTok = true) :
    ∃ r, parseProgram cfg (prog.toks ++ [eofTok]) = some r ∧ r.prog = prog.tree ∧ r.errors = [] ∧ r.hasErr = false := by
  unfold parseProgram
  rw [prog_inv hc htol hsm eofTok he prog hw hl .nil (PS.init (prog.toks ++ [eofTok])) rfl]
  refine ⟨_, rfl, ?_, ?_, ?_⟩
  · simp [StmtList.app]
  · simp [nextK_errors, PS.init]
  · simp [nextK_errors, PS.init]

end Xjs.RA
