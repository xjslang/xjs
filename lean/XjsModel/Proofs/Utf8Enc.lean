import XjsModel.Model.Lexer
import XjsModel.Spec.Utf8
/-
  The UTF-8 encoder of `lexer/helpers.go` against RFC 3629, and what `keepEscaped` guarantees about decoded escapes.
  (Part of the C07 property theorems; stated in namespace `Xjs.C07`.)
-/
namespace Xjs.C07
open Xjs Xjs.Spec

/-- tag bits `a <<< i` and a payload below `2 ^ i` do not overlap, so or-ing them is adding them -/
theorem tag_or (a i x : Nat) (hi : i ≤ 8) (hx : x < 2 ^ i) : a <<< i ||| x % 256 = a <<< i + x := by
  have : 2 ^ i ≤ 2 ^ 8 := Nat.pow_le_pow_right (by decide) hi
  rw [Nat.mod_eq_of_lt (by omega), Nat.shiftLeft_add_eq_or_of_lt hx]

theorem b80 (x : Nat) (h : x < 64) : 128 ||| (x % 256) = 128 + x := tag_or 2 6 x (by decide) h
theorem bC0 (x : Nat) (h : x < 32) : 192 ||| (x % 256) = 192 + x := tag_or 6 5 x (by decide) h
theorem bE0 (x : Nat) (h : x < 16) : 224 ||| (x % 256) = 224 + x := tag_or 14 4 x (by decide) h
theorem bF0 (x : Nat) (h : x < 8) : 240 ||| (x % 256) = 240 + x := tag_or 30 3 x (by decide) h

theorem and_3f (x : Nat) : x &&& 0x3F = x % 64 := by
  have := Nat.and_two_pow_sub_one_eq_mod x 6
  simpa using this

/-- the encoder of `lexer/helpers.go` is UTF-8, for every code point -/
theorem encodeUTF8_is_utf8 (cp : Nat) (h : cp ≤ 0x10FFFF) : encodeUTF8 cp = utf8Encode cp := by
  unfold encodeUTF8 utf8Encode toByte
  -- the code tests `cp ≤ 0x7F`, the specification `cp < 0x80`: write both with `<`, so that they split together
  have e : ∀ n, (cp ≤ n) = (cp < n + 1) := fun n => propext Nat.lt_add_one_iff.symm
  rw [e] at h
  simp only [e, Nat.reduceAdd, Nat.reducePow, and_3f, Nat.shiftRight_eq_div_pow, if_pos h]
  split
  · rw [Nat.mod_eq_of_lt (by omega)]
  split
  · rw [bC0 _ (by omega), b80 _ (by omega)]
  split
  · rw [bE0 _ (by omega), b80 (cp / 64 % 64) (by omega), b80 (cp % 64) (by omega)]
  · rw [bF0 _ (by omega), b80 (cp / 4096 % 64) (by omega), b80 (cp / 64 % 64) (by omega), b80 (cp % 64) (by omega)]

/-- bytes that must not appear raw inside the re-quoted literal -/
def structural (b : Nat) : Bool := b == 34 || b == 92 || b == 10 || b == 13 || (48 ≤ b && b ≤ 57)

/-- a decoded escape never injects a quote, a backslash, a line terminator or a digit -/
theorem decoded_escape_is_harmless (v : Nat) (hv : v ≤ 0x10FFFF) (hk : keepEscaped v = false) :
    ∀ b ∈ encodeUTF8 v, structural b = false := by
  rw [encodeUTF8_is_utf8 v hv]
  unfold keepEscaped at hk
  simp only [Bool.or_eq_false_iff, beq_eq_false_iff_ne, Bool.and_eq_false_imp, decide_eq_true_eq, decide_eq_false_iff_not] at hk
  unfold utf8Encode
  intro b hb
  unfold structural
  split at hb
  · simp only [List.mem_singleton] at hb; subst hb
    simp only [Bool.or_eq_false_iff, beq_eq_false_iff_ne, Bool.and_eq_false_imp, decide_eq_true_eq, decide_eq_false_iff_not]
    omega
  · have : 128 ≤ b := by
      split at hb
      · simp at hb; omega
      · split at hb <;> simp at hb <;> omega
    simp only [Bool.or_eq_false_iff, beq_eq_false_iff_ne, Bool.and_eq_false_imp, decide_eq_true_eq, decide_eq_false_iff_not]
    omega

/-- surrogate halves are never decoded (their "encoding" would not be UTF-8) -/
theorem surrogates_stay_escaped (v : Nat) (h : 0xD800 ≤ v ∧ v ≤ 0xDFFF) : keepEscaped v = true := by
  unfold keepEscaped; simp; omega

/-- everything the lexer decodes is a Unicode scalar value -/
theorem decoded_is_scalar (v : Nat) (hv : v ≤ 0x10FFFF) (hk : keepEscaped v = false) : isScalar v = true := by
  unfold keepEscaped at hk
  unfold isScalar
  simp only [Bool.or_eq_false_iff, beq_eq_false_iff_ne, Bool.and_eq_false_imp, decide_eq_true_eq, decide_eq_false_iff_not] at hk
  simp; omega

end Xjs.C07
