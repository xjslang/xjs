import XjsModel.Proofs.IndentWriter
/-
  The indent relation is preserved by every printer (structural recursion over the tree).
-/
namespace Xjs

theorem PendNL_writeNewline (cw : CW) : PendNL cw.writeNewline := by
  unfold PendNL CW.writeNewline; split <;> simp_all

theorem PendNL_increaseIndent {cw : CW} (h : PendNL cw) : PendNL cw.increaseIndent := by
  unfold CW.increaseIndent; split
  · exact h
  · intro _; exact h (by simp_all)
theorem PendNL_decreaseIndent {cw : CW} (h : PendNL cw) : PendNL cw.decreaseIndent := by
  unfold CW.decreaseIndent; split
  · exact h
  · intro _; exact h (by simp_all)
theorem PendNL_newlineIf {cw : CW} (first : Bool) (h : first = true → PendNL cw) : PendNL (cw.newlineIf first) := by
  unfold CW.newlineIf; split
  · rename_i hf; exact h hf
  · exact PendNL_writeNewline cw

macro "ind_step" : tactic => `(tactic| first
  | assumption
  | apply IndRel.panic
  | apply IndRel.writeString
  | apply IndRel.writeRune
  | apply IndRel.writeSemi
  | apply IndRel.separateSigns
  | apply IndRel.increaseIndent
  | apply IndRel.decreaseIndent
  | apply IndRel.writeNewline
  | apply IndRel.writeSpace
  | apply IndRel.leadingComments
  | apply IndRel.addMapping
  | apply IndRel.addNamedMapping
  | apply IndRel.head
  | apply IndRel.writeIdent
  | apply IndRel.writeParams
  | apply IndRel.openIf
  | apply IndRel.closeIf
  | apply IndRel.sepIf
  | apply IndRel.newlineIf)

theorem indrel_ite {c : Prop} [Decidable c] {a b a' b' : CW} (h1 : IndRel a b) (h2 : IndRel a' b') :
    IndRel (if c then a else a') (if c then b else b') := by split <;> assumption

attribute [local irreducible] CW.openIf CW.closeIf CW.sepIf CW.newlineIf CW.head CW.writeString CW.writeRune CW.writeSemi
  CW.separateSigns CW.increaseIndent CW.decreaseIndent CW.writeIndent CW.writeNewline CW.writeSpace CW.leadingComments
  CW.addMapping CW.addNamedMapping CW.panic writeIdent writeParams

mutual
  theorem ind_writeExpr : ∀ (e : Expr) (a b : CW), IndRel a b → IndRel (writeExpr e a) (writeExpr e b)
    | .none, a, b, h => by simp only [writeExpr]; repeat' ind_step
    | .ident id, a, b, h => by simp only [writeExpr]; repeat' ind_step
    | .int tok, a, b, h => by simp only [writeExpr]; repeat' ind_step
    | .float tok, a, b, h => by simp only [writeExpr]; repeat' ind_step
    | .str tok v, a, b, h => by simp only [writeExpr]; repeat' ind_step
    | .raw tok v, a, b, h => by simp only [writeExpr]; repeat' ind_step
    | .bool tok v, a, b, h => by simp only [writeExpr]; repeat' ind_step
    | .null tok, a, b, h => by simp only [writeExpr]; repeat' ind_step
    | .letE tok name v, a, b, h => by
      simp only [writeExpr]; repeat' (first | apply indrel_ite | apply ind_writeExpr v | ind_step)
    | .binary tok l op r, a, b, h => by
      simp only [writeExpr]; repeat' (first | apply indrel_ite | apply ind_writeExpr l | apply ind_writeExpr r | ind_step)
    | .unary tok op r, a, b, h => by
      simp only [writeExpr]; repeat' (first | apply indrel_ite | apply ind_writeExpr r | ind_step)
    | .postfix tok l op, a, b, h => by
      simp only [writeExpr]; repeat' (first | apply indrel_ite | apply ind_writeExpr l | ind_step)
    | .group tok e rp, a, b, h => by
      simp only [writeExpr]; repeat' (first | apply ind_writeExpr e | ind_step)
    | .call tok fn args, a, b, h => by
      simp only [writeExpr]; repeat' (first | apply ind_writeExpr fn | apply ind_writeExprList args | ind_step)
    | .member tok obj prop c, a, b, h => by
      simp only [writeExpr]; repeat' (first | apply indrel_ite | apply ind_writeExpr obj | apply ind_writeExpr prop | ind_step)
    | .assign tok l v, a, b, h => by
      simp only [writeExpr]; repeat' (first | apply ind_writeExpr l | apply ind_writeExpr v | ind_step)
    | .compound tok l op v, a, b, h => by
      simp only [writeExpr]; repeat' (first | apply ind_writeExpr l | apply ind_writeExpr v | ind_step)
    | .func tok name params body, a, b, h => by
      cases name <;> simp only [writeExpr] <;> repeat' (first | apply ind_writeStmt body | ind_step)
    | .array tok elems rb, a, b, h => by
      simp only [writeExpr]; repeat' (first | apply ind_writeExprList elems | ind_step)
    | .object tok props rb, a, b, h => by
      simp only [writeExpr]; repeat' (first | apply ind_writeProps props | ind_step)
  theorem ind_writeExprList : ∀ (es : ExprList) (first : Bool) (a b : CW), IndRel a b →
      IndRel (writeExprList es first a) (writeExprList es first b)
    | .nil, _, a, b, h => by simp only [writeExprList]; exact h
    | .cons e rest, first, a, b, h => by
      simp only [writeExprList]; repeat' (first | apply ind_writeExprList rest | apply ind_writeExpr e | ind_step)
  theorem ind_writeProps : ∀ (ps : PropList) (first : Bool) (a b : CW), IndRel a b →
      IndRel (writeProps ps first a) (writeProps ps first b)
    | .nil, _, a, b, h => by simp only [writeProps]; exact h
    | .cons k v rest, first, a, b, h => by
      simp only [writeProps]
      repeat' (first | apply ind_writeProps rest | apply ind_writeExpr k | apply ind_writeExpr v | ind_step)
  theorem ind_writeStmt : ∀ (s : Stmt) (a b : CW), IndRel a b → IndRel (writeStmt s a) (writeStmt s b)
    | .none, a, b, h => by simp only [writeStmt]; repeat' ind_step
    | .letS tok name v, a, b, h => by
      simp only [writeStmt]; repeat' (first | apply indrel_ite | apply ind_writeExpr v | ind_step)
    | .ret tok v, a, b, h => by
      simp only [writeStmt]; repeat' (first | apply indrel_ite | apply ind_writeExpr v | ind_step)
    | .exprS e, a, b, h => by
      simp only [writeStmt]; repeat' (first | apply indrel_ite | apply ind_writeExpr e | ind_step)
    | .funcD tok name params body, a, b, h => by
      simp only [writeStmt]; repeat' (first | apply ind_writeStmt body | ind_step)
    | .block tok stmts rb, a, b, h => by
      simp only [writeStmt]
      have h1 : IndRel ((((a.head tok).writeRune 123).writeNewline).increaseIndent) ((((b.head tok).writeRune 123).writeNewline).increaseIndent) := by
        repeat' ind_step
      have p1 : PendNL ((((a.head tok).writeRune 123).writeNewline).increaseIndent) :=
        PendNL_increaseIndent (PendNL_writeNewline _)
      have h2 := ind_writeBlockStmts stmts true _ _ h1 (fun _ => p1)
      have h3 := (h2.decreaseIndent).writeNewline
      have p3 : PendNL ((writeBlockStmts stmts true ((((a.head tok).writeRune 123).writeNewline).increaseIndent)).decreaseIndent.writeNewline) :=
        PendNL_writeNewline _
      have h4 := (h3.leadingComments rb.comments).writeIndent (leadingComments_pendNL _ p3)
      exact h4.writeRune 125
    | .ifS tok c t e, a, b, h => by
      simp only [writeStmt]
      repeat' (first | apply indrel_ite | apply ind_writeExpr c | apply ind_writeStmt t | apply ind_writeStmt e | ind_step)
    | .whileS tok c body, a, b, h => by
      simp only [writeStmt]; repeat' (first | apply ind_writeExpr c | apply ind_writeStmt body | ind_step)
    | .forS tok i c u body, a, b, h => by
      simp only [writeStmt]
      repeat' (first | apply indrel_ite | apply ind_writeExpr i | apply ind_writeExpr c | apply ind_writeExpr u | apply ind_writeStmt body | ind_step)
  theorem ind_writeBlockStmts : ∀ (ss : StmtList) (first : Bool) (a b : CW), IndRel a b → (first = true → PendNL a) →
      IndRel (writeBlockStmts ss first a) (writeBlockStmts ss first b)
    | .nil, _, a, b, h, _ => by simp only [writeBlockStmts]; exact h
    | .cons s rest, first, a, b, h, hp => by
      simp only [writeBlockStmts]
      have h1 := (h.newlineIf first).writeIndent (PendNL_newlineIf first hp)
      exact ind_writeBlockStmts rest false _ _ (ind_writeStmt s _ _ h1) (fun hf => absurd hf (by simp))
  theorem ind_writeProgramStmts : ∀ (ss : StmtList) (first : Bool) (a b : CW), IndRel a b →
      IndRel (writeProgramStmts ss first a) (writeProgramStmts ss first b)
    | .nil, _, a, b, h => by simp only [writeProgramStmts]; exact h
    | .cons s rest, first, a, b, h => by
      simp only [writeProgramStmts]; repeat' (first | apply ind_writeProgramStmts rest | apply ind_writeStmt s | ind_step)
end

end Xjs
