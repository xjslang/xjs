import XjsModel.Proofs.ParserFrame
/-
  Restricted production in the tree (C15): every postfix `++` / `--` node the parser makes stands on the line of its
  operand — its token does not follow a line break. For every input, mode and table, whatever errors were reported.
-/
namespace Xjs

/-- not a `++` / `--` after a line break -/
def Token.pfOk (t : Token) : Bool := !((t.type == .increment || t.type == .decrement) && t.nl)
/-- the table reads the token as a postfix operator -/
def Token.isPostfixOf (cfg : PCfg) (t : Token) : Bool := lookup cfg.infixFns t.type == some .postfix

mutual
  def Expr.pfOk (cfg : PCfg) : Expr → Bool
    | .none | .ident _ | .int _ | .float _ | .str _ _ | .raw _ _ | .bool _ _ | .null _ => true
    | .letE _ _ v => v.pfOk cfg
    | .binary _ l _ r => l.pfOk cfg && r.pfOk cfg
    | .unary _ _ r => r.pfOk cfg
    | .postfix tok l _ => tok.pfOk && tok.isPostfixOf cfg && l.pfOk cfg
    | .group _ e _ => e.pfOk cfg
    | .call _ f args => f.pfOk cfg && args.pfOk cfg
    | .member _ o p _ => o.pfOk cfg && p.pfOk cfg
    | .assign _ l v => l.pfOk cfg && v.pfOk cfg
    | .compound _ l _ v => l.pfOk cfg && v.pfOk cfg
    | .func _ _ _ body => body.pfOk cfg
    | .array _ es _ => es.pfOk cfg
    | .object _ ps _ => ps.pfOk cfg
  def Stmt.pfOk (cfg : PCfg) : Stmt → Bool
    | .none => true
    | .letS _ _ v => v.pfOk cfg
    | .ret _ v => v.pfOk cfg
    | .exprS e => e.pfOk cfg
    | .funcD _ _ _ body => body.pfOk cfg
    | .block _ ss _ => ss.pfOk cfg
    | .ifS _ c t e => c.pfOk cfg && t.pfOk cfg && e.pfOk cfg
    | .whileS _ c b => c.pfOk cfg && b.pfOk cfg
    | .forS _ i c u b => i.pfOk cfg && c.pfOk cfg && u.pfOk cfg && b.pfOk cfg
  def ExprList.pfOk (cfg : PCfg) : ExprList → Bool
    | .nil => true
    | .cons e t => e.pfOk cfg && t.pfOk cfg
  def StmtList.pfOk (cfg : PCfg) : StmtList → Bool
    | .nil => true
    | .cons s t => s.pfOk cfg && t.pfOk cfg
  def PropList.pfOk (cfg : PCfg) : PropList → Bool
    | .nil => true
    | .cons k v t => k.pfOk cfg && v.pfOk cfg && t.pfOk cfg
end

theorem StmtList.pfOk_snoc (cfg : PCfg) : ∀ (l : StmtList) (s : Stmt), (l.snoc s).pfOk cfg = (l.pfOk cfg && s.pfOk cfg)
  | .nil, s => by simp [StmtList.snoc, StmtList.pfOk]
  | .cons x t, s => by simp [StmtList.snoc, StmtList.pfOk, StmtList.pfOk_snoc cfg t s, Bool.and_assoc]
theorem ExprList.pfOk_snoc (cfg : PCfg) : ∀ (l : ExprList) (e : Expr), (l.snoc e).pfOk cfg = (l.pfOk cfg && e.pfOk cfg)
  | .nil, e => by simp [ExprList.snoc, ExprList.pfOk]
  | .cons x t, e => by simp [ExprList.snoc, ExprList.pfOk, ExprList.pfOk_snoc cfg t e, Bool.and_assoc]
theorem PropList.pfOk_snoc (cfg : PCfg) : ∀ (l : PropList) (k v : Expr), (l.snoc k v).pfOk cfg = (l.pfOk cfg && k.pfOk cfg && v.pfOk cfg)
  | .nil, k, v => by simp [PropList.snoc, PropList.pfOk]
  | .cons a b t, k, v => by simp [PropList.snoc, PropList.pfOk, PropList.pfOk_snoc cfg t k v, Bool.and_assoc]

/-- every postfix node of a result carries a postfix operator token that does not follow a line break -/
def Kind.PfOk (cfg : PCfg) : (k : Kind) → k.type → Prop
  | .stmt, s => s.pfOk cfg = true
  | .expr, e => e.pfOk cfg = true
  | .exprs, l => l.pfOk cfg = true
  | .stmts, l => l.pfOk cfg = true
  | .props, o => ∀ p, o = some p → p.pfOk cfg = true
  | .idents, _ => True

/-- what a call returns has this property if the tree it was handed has it; `parseInfixExpression` is only called on an
    operator that does not follow a line break if it is `++` / `--` -/
def Call.PfOk (cfg : PCfg) : {k : Kind} → Call k → PS → k.type → Prop
  | _, .remaining left _, _, x => left.pfOk cfg = true → x.pfOk cfg = true
  | _, .infix left, st, x => st.peek.pfOk = true → left.pfOk cfg = true → x.pfOk cfg = true
  | _, .exprListLoop acc, _, x => acc.pfOk cfg = true → x.pfOk cfg = true
  | _, .objLoop acc, _, x => acc.pfOk cfg = true → ∀ p, x = some p → p.pfOk cfg = true
  | _, .blockLoop acc, _, x | _, .programLoop acc, _, x => acc.pfOk cfg = true → x.pfOk cfg = true
  | _, .endStmt s, _, x => s.pfOk cfg = true → x.pfOk cfg = true
  | k, _, _, x => k.PfOk cfg x

theorem Parse.pfOk {cfg : PCfg} {E : Prop} {k : Kind} {c : Call k} {st : PS} {x : k.type} {st' : PS}
    (h : Parse cfg E c st x st') : c.PfOk cfg st x := by
  induction h
  case base ih => unfold stmtCall at ih; split at ih <;> exact ih
  case blockLoop_step ih1 ih2 | programLoop_step ih1 ih2 =>
    exact fun hacc => ih2 (by split <;> simp_all [Call.PfOk, Kind.PfOk, StmtList.pfOk_snoc])
  -- the loop of `parseRemaining` stops in front of a `++` / `--` that follows a line break
  case remaining_step hc _ _ ih1 ih2 =>
    refine fun hl => ih2 (ih1 ?_ hl)
    simp only [continues, Bool.and_eq_true] at hc
    rw [Token.pfOk, Bool.and_comm]
    exact hc.1.2
  case infix_postfix =>
    simp_all [Call.PfOk, Kind.PfOk, Expr.pfOk, Token.isPostfixOf, next_cur]
  all_goals simp_all [Kind.PfOk, Call.PfOk, Expr.pfOk, Stmt.pfOk, ExprList.pfOk, StmtList.pfOk, PropList.pfOk,
    ExprList.pfOk_snoc, PropList.pfOk_snoc]

theorem pf_mutual (cfg : PCfg) :
    (∀ is st r, parseStatementI cfg is st = some r → r.1.pfOk cfg = true) ∧
    (∀ st r, baseParseStatement cfg st = some r → r.1.pfOk cfg = true) ∧
    (∀ st r, parseExpressionStatement cfg st = some r → r.1.pfOk cfg = true) ∧
    (∀ is prec st r, parseExpressionI cfg is prec st = some r → r.1.pfOk cfg = true) ∧
    (∀ left prec st r, parseRemaining cfg left prec st = some r → left.pfOk cfg = true → r.1.pfOk cfg = true) ∧
    (∀ left st r, parseInfixExpression cfg left st = some r → st.peek.pfOk = true → left.pfOk cfg = true → r.1.pfOk cfg = true) ∧
    (∀ endTy st r, parseExpressionList cfg endTy st = some r → r.1.pfOk cfg = true) ∧
    (∀ acc st r, exprListLoop cfg acc st = some r → acc.pfOk cfg = true → r.1.pfOk cfg = true) ∧
    (∀ st r, parsePrefixExpression cfg st = some r → r.1.pfOk cfg = true) ∧
    (∀ st r, parseFunctionExpression cfg st = some r → r.1.pfOk cfg = true) ∧
    (∀ st r, parseBlockStatement cfg st = some r → r.1.pfOk cfg = true) ∧
    (∀ acc st r, blockLoop cfg acc st = some r → acc.pfOk cfg = true → r.1.pfOk cfg = true) ∧
    (∀ st r, parseObjectLiteral cfg st = some r → r.1.pfOk cfg = true) ∧
    (∀ acc st r, objectLoop cfg acc st = some r → acc.pfOk cfg = true → ∀ p, r.1 = some p → p.pfOk cfg = true) ∧
    (∀ st r, parseForStatement cfg st = some r → r.1.pfOk cfg = true) ∧
    (∀ st r, parseForInit cfg st = some r → r.1.pfOk cfg = true) ∧
    (∀ st r, parseLetExpression cfg st = some r → r.1.pfOk cfg = true) ∧
    (∀ st r, parseWhileStatement cfg st = some r → r.1.pfOk cfg = true) ∧
    (∀ st r, parseIfStatement cfg st = some r → r.1.pfOk cfg = true) ∧
    (∀ st r, parseReturnStatement cfg st = some r → r.1.pfOk cfg = true) ∧
    (∀ st r, parseFunctionStatement cfg st = some r → r.1.pfOk cfg = true) ∧
    (∀ st r, parseLetStatement cfg st = some r → r.1.pfOk cfg = true) :=
  Parse.run_mutual (M := fun c st r => c.PfOk cfg st r.1) fun _ _ _ h => (Parse.of_run h).pfOk

/-- no postfix `++` / `--` of a parsed program follows a line break -/
theorem pf_parseProgram (cfg : PCfg) (toks : List Token) (r : ParseResult)
    (h : parseProgram cfg toks = some r) : r.prog.pfOk cfg = true := by
  unfold parseProgram at h
  obtain ⟨⟨stmts, st⟩, h1, h2⟩ := bind_some h
  cases h2
  exact (Parse.of_run (c := .programLoop .nil) h1).pfOk rfl

end Xjs
