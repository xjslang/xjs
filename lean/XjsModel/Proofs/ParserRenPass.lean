import XjsModel.Proofs.ParserRen
/-
  The renaming pass (C05): `Parse.mapTok` for the token map of a renaming, read back in terms of `psR`, `exprR`, ….
-/
namespace Xjs.Ren
open Xjs
variable {cfg : PCfg} (ρ : Renaming cfg)

theorem psR_setTrace (st : PS) (b : Bool) (id : Nat) :
    psR ρ { st with trace := st.trace ++ [st.event b id] } =
      { psR ρ st with trace := (psR ρ st).trace ++ [(psR ρ st).event b id] } := by
  simp only [psR_eq]; exact PS.mapTok_setBoth _ st st.curPrec b id
theorem psR_setPrec (st : PS) (p : Nat) : psR ρ { st with curPrec := p } = { psR ρ st with curPrec := p } := rfl

theorem ren_mutual :
    (∀ is st r, parseStatementI cfg is st = some r → parseStatementI cfg is (psR ρ st) = some (stmtR ρ r.1, psR ρ r.2)) ∧
    (∀ st r, baseParseStatement cfg st = some r → baseParseStatement cfg (psR ρ st) = some (stmtR ρ r.1, psR ρ r.2)) ∧
    (∀ st r, parseExpressionStatement cfg st = some r → parseExpressionStatement cfg (psR ρ st) = some (stmtR ρ r.1, psR ρ r.2)) ∧
    (∀ is prec st r, parseExpressionI cfg is prec st = some r → parseExpressionI cfg is prec (psR ρ st) = some (exprR ρ r.1, psR ρ r.2)) ∧
    (∀ left prec st r, parseRemaining cfg left prec st = some r → parseRemaining cfg (exprR ρ left) prec (psR ρ st) = some (exprR ρ r.1, psR ρ r.2)) ∧
    (∀ left st r, parseInfixExpression cfg left st = some r → parseInfixExpression cfg (exprR ρ left) (psR ρ st) = some (exprR ρ r.1, psR ρ r.2)) ∧
    (∀ endTy st r, parseExpressionList cfg endTy st = some r → movable endTy = false → parseExpressionList cfg endTy (psR ρ st) = some (exprListR ρ r.1, psR ρ r.2)) ∧
    (∀ acc st r, exprListLoop cfg acc st = some r → exprListLoop cfg (exprListR ρ acc) (psR ρ st) = some (exprListR ρ r.1, psR ρ r.2)) ∧
    (∀ st r, parsePrefixExpression cfg st = some r → parsePrefixExpression cfg (psR ρ st) = some (exprR ρ r.1, psR ρ r.2)) ∧
    (∀ st r, parseFunctionExpression cfg st = some r → parseFunctionExpression cfg (psR ρ st) = some (exprR ρ r.1, psR ρ r.2)) ∧
    (∀ st r, parseBlockStatement cfg st = some r → parseBlockStatement cfg (psR ρ st) = some (stmtR ρ r.1, psR ρ r.2)) ∧
    (∀ acc st r, blockLoop cfg acc st = some r → blockLoop cfg (stmtListR ρ acc) (psR ρ st) = some (stmtListR ρ r.1, psR ρ r.2)) ∧
    (∀ st r, parseObjectLiteral cfg st = some r → parseObjectLiteral cfg (psR ρ st) = some (exprR ρ r.1, psR ρ r.2)) ∧
    (∀ acc st r, objectLoop cfg acc st = some r → objectLoop cfg (propListR ρ acc) (psR ρ st) = some (r.1.map (propListR ρ), psR ρ r.2)) ∧
    (∀ st r, parseForStatement cfg st = some r → parseForStatement cfg (psR ρ st) = some (stmtR ρ r.1, psR ρ r.2)) ∧
    (∀ st r, parseForInit cfg st = some r → parseForInit cfg (psR ρ st) = some (exprR ρ r.1, psR ρ r.2)) ∧
    (∀ st r, parseLetExpression cfg st = some r → parseLetExpression cfg (psR ρ st) = some (exprR ρ r.1, psR ρ r.2)) ∧
    (∀ st r, parseWhileStatement cfg st = some r → parseWhileStatement cfg (psR ρ st) = some (stmtR ρ r.1, psR ρ r.2)) ∧
    (∀ st r, parseIfStatement cfg st = some r → parseIfStatement cfg (psR ρ st) = some (stmtR ρ r.1, psR ρ r.2)) ∧
    (∀ st r, parseReturnStatement cfg st = some r → parseReturnStatement cfg (psR ρ st) = some (stmtR ρ r.1, psR ρ r.2)) ∧
    (∀ st r, parseFunctionStatement cfg st = some r → parseFunctionStatement cfg (psR ρ st) = some (stmtR ρ r.1, psR ρ r.2)) ∧
    (∀ st r, parseLetStatement cfg st = some r → parseLetStatement cfg (psR ρ st) = some (stmtR ρ r.1, psR ρ r.2)) := by
  simp only [psR_eq, exprR_eq, stmtR_eq, exprListR_eq, stmtListR_eq, funext (propListR_eq ρ)]
  exact
  ⟨fun is _ _ h => ((Parse.of_run (c := .stmtI is) h).mapTok ρ.tokMap trivial).run,
   fun _ _ h => ((Parse.of_run (c := .base) h).mapTok ρ.tokMap trivial).run,
   fun _ _ h => ((Parse.of_run (c := .exprS) h).mapTok ρ.tokMap trivial).run,
   fun is prec _ _ h => ((Parse.of_run (c := .exprI is prec) h).mapTok ρ.tokMap trivial).run,
   fun left prec _ _ h => ((Parse.of_run (c := .remaining left prec) h).mapTok ρ.tokMap trivial).run,
   fun left _ _ h => ((Parse.of_run (c := .infix left) h).mapTok ρ.tokMap trivial).run,
   fun endTy _ _ h hm => ((Parse.of_run (c := .exprList endTy) h).mapTok ρ.tokMap hm).run,
   fun acc _ _ h => ((Parse.of_run (c := .exprListLoop acc) h).mapTok ρ.tokMap trivial).run,
   fun _ _ h => ((Parse.of_run (c := .prefix) h).mapTok ρ.tokMap trivial).run,
   fun _ _ h => ((Parse.of_run (c := .funcE) h).mapTok ρ.tokMap trivial).run,
   fun _ _ h => ((Parse.of_run (c := .block) h).mapTok ρ.tokMap trivial).run,
   fun acc _ _ h => ((Parse.of_run (c := .blockLoop acc) h).mapTok ρ.tokMap trivial).run,
   fun _ _ h => ((Parse.of_run (c := .objLit) h).mapTok ρ.tokMap trivial).run,
   fun acc _ _ h => ((Parse.of_run (c := .objLoop acc) h).mapTok ρ.tokMap trivial).run,
   fun _ _ h => ((Parse.of_run (c := .forS) h).mapTok ρ.tokMap trivial).run,
   fun _ _ h => ((Parse.of_run (c := .forInit) h).mapTok ρ.tokMap trivial).run,
   fun _ _ h => ((Parse.of_run (c := .letE) h).mapTok ρ.tokMap trivial).run,
   fun _ _ h => ((Parse.of_run (c := .whileS) h).mapTok ρ.tokMap trivial).run,
   fun _ _ h => ((Parse.of_run (c := .ifS) h).mapTok ρ.tokMap trivial).run,
   fun _ _ h => ((Parse.of_run (c := .ret) h).mapTok ρ.tokMap trivial).run,
   fun _ _ h => ((Parse.of_run (c := .funcS) h).mapTok ρ.tokMap trivial).run,
   fun _ _ h => ((Parse.of_run (c := .letS) h).mapTok ρ.tokMap trivial).run⟩

end Xjs.Ren
