import XjsModel.Proofs.LexerTrivia
import XjsModel.Model.Printer
/-
  Lexing what the printer spells: a position-free view of one token request (`key3`), the relation
  `LexTo b ks r` ("the text `b` lexes to the keys `ks` and then `r` is left, up to blanks"), and one lemma per token
  class: the spelling of the token, followed by any text that its follow predicate admits, is read back as that token.
-/
namespace Xjs.LP
open Xjs

/-- what the parser reads of a token: its type and literal -/
abbrev Key := TokType × Bytes

/-- type and literal of the token, the text left, and the two fields that record trivia in front of it (after-newline
    flag, leading comments) -/
def key3 (r : Token × LS) : Key × Bytes × Bool × List Bytes := ((r.1.type, r.1.lit), r.2.rest, r.1.nl, r.1.comments)

theorem cur_eq (s : LS) : s.cur = s.rest.headD 0 := rfl
theorem peek_eq (s : LS) : s.peek = s.rest.tail.headD 0 := rfl

/-! ## dispatch of `baseNextToken` on the class of the first byte -/

theorem letter_not_digit (c : Nat) (h : isLetter c = true) : isDigit c = false := by
  unfold isLetter at h; unfold isDigit
  simp only [Bool.or_eq_true, Bool.and_eq_true, decide_eq_true_eq, beq_iff_eq] at h
  simp only [Bool.and_eq_false_iff, decide_eq_false_iff_not]
  omega

theorem ops_bytes : (∀ e ∈ ops1, isLetter e.1 = false ∧ isDigit e.1 = false) ∧
    (∀ e ∈ ops2, isLetter e.1 = false ∧ isDigit e.1 = false) := by decide

theorem base_letter (nl : Bool) (cs : List Bytes) (s : LS) (h : isLetter s.cur = true) :
    baseNextToken nl cs s =
      (mkTok (lookupIdent (s.rest.take (identLen s.rest))) (s.rest.take (identLen s.rest)) s (readChars (identLen s.rest) s) nl cs,
       readChars (identLen s.rest) s) := by
  have hb := baseNextToken_cases nl cs s
  generalize baseNextToken nl cs s = r at hb ⊢
  -- a letter is no byte of the operator tables, no quote, no backtick and no digit, and the input has not ended
  cases hb with
  | word => rfl
  | one c hc ty hrow => rw [hc, (ops_bytes.1 _ hrow).1] at h; cases h
  | two c p hc _ ty hrow => rw [hc, (ops_bytes.2 _ hrow).1] at h; cases h
  | bad c hc hl | num c hc hl => rw [hc, hl] at h; cases h
  | str c hc hq =>
    rw [hc] at h
    rcases Bool.or_eq_true _ _ ▸ hq with e | e <;> rw [eq_of_beq e] at h <;> cases h
  | raw hc => rw [hc] at h; cases h
  | eof he => rw [cur_eq, List.isEmpty_iff.1 he] at h; cases h

theorem base_digit (nl : Bool) (cs : List Bytes) (s : LS) (h : isDigit s.cur = true) :
    baseNextToken nl cs s =
      (mkTok (scanNumber s.rest).2 (s.rest.take (scanNumber s.rest).1) s (readChars (scanNumber s.rest).1 s) nl cs,
       readChars (scanNumber s.rest).1 s) := by
  have hb := baseNextToken_cases nl cs s
  generalize baseNextToken nl cs s = r at hb ⊢
  cases hb with
  | num => rfl
  | one c hc ty hrow => rw [hc, (ops_bytes.1 _ hrow).2] at h; cases h
  | two c p hc _ ty hrow => rw [hc, (ops_bytes.2 _ hrow).2] at h; cases h
  | bad c hc _ hd => rw [hc, hd] at h; cases h
  | word c hc hl => rw [hc, letter_not_digit c hl] at h; cases h
  | str c hc hq =>
    rw [hc] at h
    rcases Bool.or_eq_true _ _ ▸ hq with e | e <;> rw [eq_of_beq e] at h <;> cases h
  | raw hc => rw [hc] at h; cases h
  | eof he => rw [cur_eq, List.isEmpty_iff.1 he] at h; cases h

/-! ## no trivia in front of a token; one blank in front of a token -/

def noTriv : Trivia := { nl := false, comments := [], len := 0 }

theorem nextToken_of_trivia (s : LS) (h : trivia s.rest = noTriv) : nextToken s = baseNextToken false [] s := by
  unfold nextToken; rw [h]; rfl

theorem trivia_stop (c : Nat) (r : Bytes) (hw : isWs c = false) (h : c ≠ 47) : trivia (c :: r) = noTriv :=
  Tiling.st_n_stop c r _ hw h

theorem trivia_slash (r : Bytes) (h : r.headD 0 ≠ 47) : trivia (47 :: r) = noTriv := by
  cases r with
  | nil => exact Tiling.st_n_slash1 _
  | cons c2 r => exact Tiling.st_n_slash2 c2 r _ (by simpa using h)

theorem trivia_nil : trivia [] = noTriv := rfl

/-- a blank in front of a token is skipped: the request is the request one byte later -/
theorem nextToken_blank (s : LS) (b : Bytes) (h : s.rest = 32 :: b) : nextToken s = nextToken (readChar s) := by
  have hr : (readChar s).rest = b := by rw [readChar_rest, h]; rfl
  unfold nextToken
  rw [h, hr]
  have e : trivia (32 :: b) = { trivia b with len := (trivia b).len + 1 } := by
    unfold trivia
    rw [Tiling.st_n_ws 32 b _ (by decide) (by decide)]
    simpa [Tiling.Trivia.add, Nat.add_comm] using Tiling.scanTrivia_add ⟨false, [], 1⟩ b none ⟨false, [], 0⟩
  rw [e]
  simp only []
  rw [Nat.add_comm, readChars_add]
  rfl

/-! ## the relation "this text lexes to these keys" -/

/-- `LexTo b ks r`: from any cursor standing at the text `b`, successive token requests return tokens with the keys
    `ks` (none of them end of input; each without a line break or a comment in front of it), and what is left then is `r`, possibly behind some blanks -/
inductive LexTo : Bytes → List Key → Bytes → Prop
  | done (n : Nat) (r : Bytes) : LexTo (List.replicate n 32 ++ r) [] r
  | tok {b b' r : Bytes} {k : Key} {ks : List Key} (h : ∀ s : LS, s.rest = b → key3 (nextToken s) = (k, b', false, []))
      (hk : k.1 ≠ .eof) (rest : LexTo b' ks r) : LexTo b (k :: ks) r

theorem LexTo.refl (r : Bytes) : LexTo r [] r := LexTo.done 0 r

theorem LexTo.blank' {b : Bytes} {ks : List Key} {r' : Bytes} (h : LexTo b ks r') : ∀ r, r' = 32 :: r → LexTo b ks r := by
  induction h with
  | done n r' =>
    intro r e
    subst e
    have : List.replicate n 32 ++ 32 :: r = List.replicate (n + 1) 32 ++ r := by
      rw [List.replicate_succ']; simp
    rw [this]
    exact LexTo.done (n + 1) r
  | tok h hk _ ih => intro r e; exact LexTo.tok h hk (ih r e)

/-- a blank behind the tokens is absorbed -/
theorem LexTo.blank {b : Bytes} {ks : List Key} {r : Bytes} (h : LexTo b ks (32 :: r)) : LexTo b ks r := h.blank' r rfl

/-- a blank in front of the text is skipped -/
theorem LexTo.lead {b : Bytes} {ks : List Key} {r : Bytes} (h : LexTo b ks r) : LexTo (32 :: b) ks r := by
  cases h with
  | done n r =>
    have : 32 :: (List.replicate n 32 ++ r) = List.replicate (n + 1) 32 ++ r := by simp [List.replicate_succ]
    rw [this]; exact LexTo.done (n + 1) r
  | tok h hk rest =>
    refine LexTo.tok (fun s hs => ?_) hk rest
    rw [nextToken_blank s _ hs]
    exact h (readChar s) (by rw [readChar_rest, hs]; rfl)

theorem LexTo.append {b : Bytes} {ks : List Key} {m : Bytes} (h : LexTo b ks m) :
    ∀ {ks' : List Key} {r : Bytes}, LexTo m ks' r → LexTo b (ks ++ ks') r := by
  induction h with
  | done n m =>
    intro ks' r h2
    induction n with
    | zero => simpa using h2
    | succ n ih => rw [List.replicate_succ]; exact LexTo.lead ih
  | tok h hk _ ih => intro ks' r h2; exact LexTo.tok h hk (ih h2)

/-- one more token at the end -/
theorem LexTo.snoc {b : Bytes} {ks : List Key} {m r : Bytes} {k : Key} (h : LexTo b ks m)
    (hm : ∀ s : LS, s.rest = m → key3 (nextToken s) = (k, r, false, [])) (hk : k.1 ≠ .eof) : LexTo b (ks ++ [k]) r :=
  h.append (LexTo.tok hm hk (LexTo.refl r))

/-! ## words: identifiers and keywords -/

def isWordByte (c : Nat) : Bool := isLetter c || isDigit c

theorem takeWhile_append_stop (p : Nat → Bool) (w r : Bytes) (hw : ∀ x ∈ w, p x = true) (hr : p (r.headD 0) = false ∨ r = []) :
    (w ++ r).takeWhile p = w := by
  induction w with
  | nil =>
    cases r with
    | nil => rfl
    | cons c r' =>
      rcases hr with hr | hr
      · simp [show p c = false by simpa using hr]
      · cases hr
  | cons x w ih =>
    have hx : p x = true := hw x (by simp)
    simp [hx, ih (fun y hy => hw y (by simp [hy]))]

/-- the text cannot continue a word -/
def folWord (r : Bytes) : Bool := !isWordByte (r.headD 0)

/-- a letter or digit starts no trivia -/
theorem trivia_word (c : Nat) (r : Bytes) (h : isWordByte c = true) : trivia (c :: r) = noTriv := by
  refine trivia_stop c r ?_ (by intro e; subst e; revert h; decide)
  simp only [isWordByte, isLetter, isDigit, Bool.or_eq_true, Bool.and_eq_true, decide_eq_true_eq, beq_iff_eq] at h
  simp only [isWs, Bool.or_eq_false_iff, beq_eq_false_iff_ne]
  omega

/-- a word, followed by something that is no word byte, is read back as that word, classified by the keyword table -/
theorem word_lexes (w r : Bytes) (c : Nat) (w' : Bytes) (hw : w = c :: w') (hc : isLetter c = true)
    (hall : ∀ x ∈ w, isWordByte x = true) (hr : folWord r = true) (s : LS) (hs : s.rest = w ++ r) :
    key3 (nextToken s) = ((lookupIdent w, w), r, false, []) := by
  have hcur : s.cur = c := by rw [cur_eq, hs, hw]; rfl
  rw [nextToken_of_trivia s (by rw [hs, hw]; exact trivia_word c _ (by simp [isWordByte, hc])), base_letter false [] s (by rw [hcur]; exact hc)]
  have hlen : identLen s.rest = w.length := by
    rw [hs]
    show (List.takeWhile isWordByte (w ++ r)).length = w.length
    rw [takeWhile_append_stop isWordByte w r hall (Or.inl (by simpa [folWord] using hr))]
  rw [hs] at hlen
  simp only [key3, mkTok, readChars_rest, hs, hlen, List.take_left', List.drop_left']

/-! ## tokens with a fixed spelling -/

/-- the spelling of operators, delimiters and keywords (`[]`: the type has no fixed spelling) -/
def canon : TokType → Bytes
  | .assign => [61] | .plusAssign => [43, 61] | .minusAssign => [45, 61]
  | .plus => [43] | .minus => [45] | .multiply => [42] | .divide => [47] | .modulo => [37]
  | .eq => [61, 61] | .notEq => [33, 61] | .lt => [60] | .gt => [62] | .lte => [60, 61] | .gte => [62, 61]
  | .and => [38, 38] | .or => [124, 124] | .not => [33] | .increment => [43, 43] | .decrement => [45, 45]
  | .comma => [44] | .semicolon => [59] | .colon => [58] | .dot => [46]
  | .lparen => [40] | .rparen => [41] | .lbrace => [123] | .rbrace => [125] | .lbracket => [91] | .rbracket => [93]
  | .function => [102, 117, 110, 99, 116, 105, 111, 110] | .let_ => [108, 101, 116] | .if_ => [105, 102]
  | .else_ => [101, 108, 115, 101] | .while_ => [119, 104, 105, 108, 101] | .for_ => [102, 111, 114]
  | .return_ => [114, 101, 116, 117, 114, 110] | .true_ => [116, 114, 117, 101] | .false_ => [102, 97, 108, 115, 101]
  | .null => [110, 117, 108, 108]
  | _ => []

/-- FOLLOW: what may stand directly behind a token of this type without being drawn into it
    (sufficient conditions; one or two bytes of look-ahead, as the lexer has) -/
def fol (ty : TokType) (r : Bytes) : Bool :=
  let c := r.headD 0
  match ty with
  | .assign | .not | .lt | .gt => c != 61
  | .plus => c != 43 && c != 61
  | .minus => c != 45 && c != 61
  | .divide => c != 47
  | .ident | .function | .let_ | .if_ | .else_ | .while_ | .for_ | .return_ | .true_ | .false_ | .null => !isWordByte c
  | .int | .float => !isWordByte c && !(c == 46 && isDigit (r.tail.headD 0))
  | _ => true

theorem fixed_lexes (ty : TokType) (hf : canon ty ≠ []) (r : Bytes) (hfol : fol ty r = true) (s : LS)
    (hs : s.rest = canon ty ++ r) : key3 (nextToken s) = ((ty, canon ty), r, false, []) := by
  cases ty
  -- no spelling; a keyword; an operator or delimiter: `baseNextToken` evaluated at its first byte
  all_goals first
    | exact absurd rfl hf
    | (refine (word_lexes _ r _ _ rfl rfl (by decide) (by simpa [fol, folWord] using hfol) s hs).trans ?_
       simp only [canon]; congr 1)
    | (simp only [canon, List.cons_append, List.nil_append] at hs
       simp only [fol, bne_iff_ne, ne_eq, Bool.and_eq_true] at hfol
       rw [nextToken_of_trivia s (by rw [hs]; first | exact trivia_stop _ _ rfl (by decide) | exact trivia_slash _ hfol)]
       unfold baseNextToken
       simp only [cur_eq, peek_eq, hs, List.headD_cons, List.tail_cons, Nat.reduceBEq, Bool.false_eq_true, ↓reduceIte,
         beq_iff_eq, hfol, key3, mkTok, byteAsRuneString, encodeUTF8, toByte, readChar_rest, canon, Nat.reduceLeDiff, Nat.reduceMod,
         List.drop_succ_cons, List.drop_zero, List.cons_append, List.nil_append])

/-! ## identifiers -/

/-- an identifier as the lexer reads one: a letter, then letters and digits, not a keyword -/
def identOk (w : Bytes) : Bool :=
  match w with
  | [] => false
  | c :: _ => isLetter c && w.all isWordByte && lookupIdent w == .ident

theorem ident_lexes (w r : Bytes) (hw : identOk w = true) (hr : fol .ident r = true) (s : LS) (hs : s.rest = w ++ r) :
    key3 (nextToken s) = ((.ident, w), r, false, []) := by
  cases w with
  | nil => cases hw
  | cons c w' =>
    simp only [identOk, Bool.and_eq_true, List.all_eq_true, beq_iff_eq] at hw
    have := word_lexes (c :: w') r c w' rfl hw.1.1 hw.1.2 (by simpa [fol, folWord] using hr) s hs
    rw [this, hw.2]

/-! ## numbers, quoted strings, backtick strings: the literal re-lexes as itself -/

/-- the number literal, followed by anything that `fol` admits, is read as itself -/
def numOk (w : Bytes) (ty : TokType) : Prop :=
  isDigit (w.headD 0) = true ∧ ∀ r, fol .int r = true → scanNumber (w ++ r) = (w.length, ty)

theorem num_lexes (w r : Bytes) (ty : TokType) (hw : numOk w ty) (hr : fol .int r = true) (s : LS) (hs : s.rest = w ++ r) :
    key3 (nextToken s) = ((ty, w), r, false, []) := by
  obtain ⟨hd, hsc⟩ := hw
  cases w with
  | nil => exact absurd hd (by decide)
  | cons c w' =>
    have hd' : isDigit c = true := by simpa using hd
    have hcur : s.cur = c := by rw [cur_eq, hs]; rfl
    rw [nextToken_of_trivia s (by rw [hs]; exact trivia_word c _ (by simp [isWordByte, hd'])), base_digit false [] s (by rw [hcur]; exact hd')]
    rw [hs, hsc r hr]
    simp only [key3, mkTok, readChars_rest, hs, List.take_left', List.drop_left']

/-- the body `v` of a double-quoted literal, closed by `"`, is read back as `v` -/
def strOk (v : Bytes) : Prop := ∀ r, scanString 34 (v ++ 34 :: r).length (v ++ 34 :: r) [] 0 = (v, v.length)

theorem str_lexes (v r : Bytes) (hv : strOk v) (s : LS) (hs : s.rest = 34 :: (v ++ 34 :: r)) :
    key3 (nextToken s) = ((.string, v), r, false, []) := by
  rw [nextToken_of_trivia s (by rw [hs]; exact trivia_stop 34 _ (by decide) (by decide))]
  unfold baseNextToken
  simp only [cur_eq, peek_eq, hs, List.headD_cons, List.tail_cons]
  simp only [Nat.reduceBEq, Bool.false_eq_true, ↓reduceIte, Bool.true_or, hv r]
  have e : (List.drop (1 + v.length) (34 :: (v ++ 34 :: r))) = 34 :: r := by
    rw [Nat.add_comm, List.drop_succ_cons, List.drop_left' rfl]
  simp only [key3, mkTok, readChars_rest, readChar_rest, hs, e, List.headD_cons, List.drop_succ_cons, List.drop_zero,
    Nat.reduceBEq, ↓reduceIte]

/-- the value `v` of a backtick literal, as the printer spells it (every backtick escaped), is read back as `v` -/
def rawOk (v : Bytes) : Prop := ∀ r, scanRaw (escBackticks v ++ 96 :: r) [] 0 = (v, (escBackticks v).length)

theorem raw_lexes (v r : Bytes) (hv : rawOk v) (s : LS) (hs : s.rest = 96 :: (escBackticks v ++ 96 :: r)) :
    key3 (nextToken s) = ((.rawString, v), r, false, []) := by
  rw [nextToken_of_trivia s (by rw [hs]; exact trivia_stop 96 _ (by decide) (by decide))]
  unfold baseNextToken
  simp only [cur_eq, peek_eq, hs, List.headD_cons, List.tail_cons]
  simp only [Nat.reduceBEq, Bool.false_eq_true, ↓reduceIte, Bool.or_false, hv r]
  have e : (List.drop (1 + (escBackticks v).length) (96 :: (escBackticks v ++ 96 :: r))) = 96 :: r := by
    rw [Nat.add_comm, List.drop_succ_cons, List.drop_left' rfl]
  simp only [key3, mkTok, readChars_rest, readChar_rest, hs, e, List.headD_cons, List.drop_succ_cons, List.drop_zero,
    Nat.reduceBEq, ↓reduceIte]

end Xjs.LP
