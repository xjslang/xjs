import XjsModel.Model.Lexer
/-
  Lemmas about the lexer model: cursor invariant and reachability by `readChar`; the shapes of what `baseNextToken`
  returns (`BaseTok`) and what follows by cases on them — progress, end of input, the number scanner, `lexGoO`.
-/
namespace Xjs

/-! ## positions -/

/-- line/column after the bytes `b`, starting from `p`: a line feed starts a new line -/
def advPos : Bytes → Nat × Nat → Nat × Nat
  | [], p => p
  | c :: r, (l, col) => advPos r (if c == 10 then (l + 1, 0) else (l, col + 1))

/-- SPEC: the line/column of byte offset `off` in `src` (0-based line, byte column) -/
def lc (src : Bytes) (off : Nat) : Nat × Nat := advPos (src.take off) (0, 0)

theorem advPos_append (a b : Bytes) (p : Nat × Nat) : advPos (a ++ b) p = advPos b (advPos a p) := by
  induction a generalizing p with
  | nil => rfl
  | cons c r ih => obtain ⟨l, col⟩ := p; simp only [List.cons_append, advPos, ih]

/-- the cursor agrees with the source: it stands at offset `off`, and its line/column are those of `off` -/
structure LInv (src : Bytes) (s : LS) : Prop where
  off_le : s.off ≤ src.length
  rest_eq : s.rest = src.drop s.off
  pos_eq : (s.line, s.col) = lc src s.off

theorem linv_init (src : Bytes) : LInv src (LS.init src) := by
  refine ⟨Nat.zero_le _, by simp [LS.init], by simp [LS.init, lc, advPos]⟩

theorem readChar_inv (src : Bytes) (s : LS) (h : LInv src s) : LInv src (readChar s) := by
  obtain ⟨h1, h2, h3⟩ := h
  unfold readChar
  split
  · exact ⟨h1, h2, h3⟩
  · rename_i c r hr
    have hlt : s.off < src.length := by
      rcases Nat.lt_or_ge s.off src.length with h | h
      · exact h
      · rw [hr, List.drop_eq_nil_of_le h] at h2; exact absurd h2 (by simp)
    have hdrop : src.drop s.off = src[s.off] :: src.drop (s.off + 1) := (List.drop_eq_getElem_cons hlt)
    rw [hr, hdrop] at h2
    injection h2 with hc hrr
    have htake : src.take (s.off + 1) = src.take s.off ++ [c] := by
      rw [List.take_add_one, List.getElem?_eq_getElem hlt, hc]; rfl
    have hpos : lc src (s.off + 1) = advPos [c] (s.line, s.col) := by
      have h3' : advPos (src.take s.off) (0, 0) = (s.line, s.col) := h3.symm
      unfold lc; rw [htake, advPos_append, h3']
    split
    · rename_i hc10
      refine ⟨hlt, hrr, ?_⟩
      simp only [hpos, advPos, hc10, if_true]
    · rename_i hc10
      refine ⟨hlt, hrr, ?_⟩
      simp only [hpos, advPos, hc10]
      rfl

theorem readChars_inv (src : Bytes) (n : Nat) (s : LS) (h : LInv src s) : LInv src (readChars n s) := by
  induction n generalizing s with
  | zero => exact h
  | succ n ih => exact ih _ (readChar_inv src s h)

/-! ## reachability: every state the lexer produces is obtained by `readChar`s -/

def Reach (s s' : LS) : Prop := ∃ n, s' = readChars n s

theorem reach_refl (s : LS) : Reach s s := ⟨0, rfl⟩

theorem readChars_add (m n : Nat) (s : LS) : readChars (m + n) s = readChars n (readChars m s) := by
  induction m generalizing s with
  | zero => simp [readChars]
  | succ m ih => rw [Nat.succ_add]; simp only [readChars]; exact ih _

theorem reach_readChar {s s' : LS} (h : Reach s s') : Reach s (readChar s') := by
  obtain ⟨n, rfl⟩ := h
  exact ⟨n + 1, by rw [readChars_add]; rfl⟩

theorem reach_readChars {s s' : LS} (k : Nat) (h : Reach s s') : Reach s (readChars k s') := by
  obtain ⟨n, rfl⟩ := h
  exact ⟨n + k, by rw [readChars_add]⟩

theorem reach_inv (src : Bytes) {s s' : LS} (h : Reach s s') (hi : LInv src s) : LInv src s' := by
  obtain ⟨n, rfl⟩ := h; exact readChars_inv src n s hi

theorem readChar_rest (s : LS) : (readChar s).rest = s.rest.drop 1 := by
  unfold readChar; split
  · rename_i h; simp [h]
  · rename_i c r h; split <;> simp [h]

theorem readChars_rest (n : Nat) (s : LS) : (readChars n s).rest = s.rest.drop n := by
  induction n generalizing s with
  | zero => simp [readChars]
  | succ n ih => simp only [readChars, ih, readChar_rest, List.drop_drop]; congr 1; omega

theorem readChar_off (s : LS) : (readChar s).off = s.off + min 1 s.rest.length := by
  unfold readChar; split
  · rename_i h; simp [h]
  · rename_i c r h; split <;> simp [h] <;> omega

theorem readChars_off (n : Nat) (s : LS) : (readChars n s).off = s.off + min n s.rest.length := by
  induction n generalizing s with
  | zero => simp [readChars]
  | succ n ih =>
    simp only [readChars, ih, readChar_off, readChar_rest, List.length_drop]
    omega

/-- reading at least one character from a non-empty rest makes it shorter -/
theorem readChars_shorter (n : Nat) (s : LS) (hn : 1 ≤ n) (hne : s.rest ≠ []) :
    (readChars n s).rest.length < s.rest.length := by
  rw [readChars_rest, List.length_drop]
  have : 0 < s.rest.length := List.length_pos_iff.mpr hne
  omega

theorem reach_rest_le {s s' : LS} (h : Reach s s') : s'.rest.length ≤ s.rest.length := by
  obtain ⟨n, rfl⟩ := h
  rw [readChars_rest, List.length_drop]; omega

theorem reach_off_le {s s' : LS} (h : Reach s s') : s.off ≤ s'.off := by
  obtain ⟨n, rfl⟩ := h
  rw [readChars_off]; omega


/-! ## baseNextToken -/

/-- the one-byte operators and delimiters of `baseNextToken`: the byte and the token type -/
def ops1 : List (Nat × TokType) :=
  [(61, .assign), (33, .not), (60, .lt), (62, .gt), (43, .plus), (45, .minus), (42, .multiply), (47, .divide), (37, .modulo),
   (44, .comma), (59, .semicolon), (58, .colon), (46, .dot), (40, .lparen), (41, .rparen), (123, .lbrace), (125, .rbrace),
   (91, .lbracket), (93, .rbracket)]

/-- the two-byte operators: the two bytes and the token type -/
def ops2 : List (Nat × Nat × TokType) :=
  [(61, 61, .eq), (33, 61, .notEq), (60, 61, .lte), (62, 61, .gte), (38, 38, .and), (124, 124, .or), (43, 43, .increment),
   (43, 61, .plusAssign), (45, 45, .decrement), (45, 61, .minusAssign)]

/-- what `baseNextToken` returns from the cursor `s`, by the class of the first byte: a one- or two-byte operator of the
    tables; a byte that starts no token (ILLEGAL); a quoted or backtick string (ILLEGAL when unterminated); end of input; an
    identifier or keyword; a number. Every fact about a token that does not depend on the particular operator is read off
    these eight shapes. -/
inductive BaseTok (nl : Bool) (cs : List Bytes) (s : LS) : Token × LS → Prop
  | one (c : Nat) (hc : s.cur = c) (ty : TokType) (hrow : (c, ty) ∈ ops1) :
      BaseTok nl cs s (mkTok ty (byteAsRuneString c) s s nl cs, readChar s)
  | two (c p : Nat) (hc : s.cur = c) (hp : s.peek = p) (ty : TokType) (hrow : (c, p, ty) ∈ ops2) :
      BaseTok nl cs s (mkTok ty (byteAsRuneString c ++ byteAsRuneString p) s (readChar s) nl cs, readChar (readChar s))
  | bad (c : Nat) (hc : s.cur = c) (hl : isLetter c = false) (hd : isDigit c = false) :
      BaseTok nl cs s (mkTok .illegal (byteAsRuneString c) s s nl cs, readChar s)
  | str (c : Nat) (hc : s.cur = c) (hq : (c == 34 || c == 39) = true) :
      BaseTok nl cs s
        (mkTok (if (readChars (1 + (scanString c s.rest.tail.length s.rest.tail [] 0).2) s).cur == c then .string else .illegal)
          (scanString c s.rest.tail.length s.rest.tail [] 0).1 s
          (readChars (1 + (scanString c s.rest.tail.length s.rest.tail [] 0).2) s) nl cs,
         readChar (readChars (1 + (scanString c s.rest.tail.length s.rest.tail [] 0).2) s))
  | raw (hc : s.cur = 96) :
      BaseTok nl cs s
        (mkTok (if (readChars (1 + (scanRaw s.rest.tail [] 0).2) s).cur == 96 then .rawString else .illegal)
          (scanRaw s.rest.tail [] 0).1 s (readChars (1 + (scanRaw s.rest.tail [] 0).2) s) nl cs,
         readChar (readChars (1 + (scanRaw s.rest.tail [] 0).2) s))
  | eof (he : s.rest.isEmpty = true) : BaseTok nl cs s (mkTok .eof [] s s nl cs, s)
  | word (c : Nat) (hc : s.cur = c) (hl : isLetter c = true) :
      BaseTok nl cs s
        (mkTok (lookupIdent (s.rest.take (identLen s.rest))) (s.rest.take (identLen s.rest)) s (readChars (identLen s.rest) s) nl cs,
         readChars (identLen s.rest) s)
  | num (c : Nat) (hc : s.cur = c) (hl : isLetter c = false) (hd : isDigit c = true) :
      BaseTok nl cs s
        (mkTok (scanNumber s.rest).2 (s.rest.take (scanNumber s.rest).1) s (readChars (scanNumber s.rest).1 s) nl cs,
         readChars (scanNumber s.rest).1 s)

theorem ite_cases {c : Prop} [Decidable c] {α} {a b : α} {P : α → Prop} (ha : c → P a) (hb : ¬c → P b) :
    P (if c then a else b) := by
  split
  · exact ha ‹_›
  · exact hb ‹_›

theorem baseNextToken_cases (nl : Bool) (cs : List Bytes) (s : LS) : BaseTok nl cs s (baseNextToken nl cs s) := by
  unfold baseNextToken
  simp only []
  generalize hc : s.cur = c
  generalize hp : s.peek = p
  -- down the chain of tests on the first byte: where a test `c == k` holds, `k` is put for `c`, and the token is in the tables;
  -- what is left are the six tests at the end of the chain
  repeat' (first
    | (apply ite_cases (P := BaseTok nl cs s) <;> intro h <;> try cases eq_of_beq h)
    | exact .one _ hc _ (by decide)
    | exact .two _ _ hc hp _ (by decide)
    | exact .bad _ hc rfl rfl)
  · exact .str _ hc h
  · exact .raw hc
  · exact .eof h
  · exact .word _ hc h
  · exact .num _ hc (by simpa using ‹¬isLetter c = true›) h
  · exact .bad _ hc (by simpa using ‹¬isLetter c = true›) (by simpa using h)

theorem ops_ne_eof : (∀ e ∈ ops1, e.2 ≠ .eof) ∧ (∀ e ∈ ops2, e.2.2 ≠ .eof) := by decide

theorem baseNextToken_reach (nl : Bool) (cs : List Bytes) (s : LS) : Reach s (baseNextToken nl cs s).2 := by
  have h := baseNextToken_cases nl cs s
  generalize baseNextToken nl cs s = r at h ⊢
  cases h with
  | one | bad => exact ⟨1, rfl⟩
  | two => exact ⟨2, rfl⟩
  | str | raw => exact reach_readChar (reach_readChars _ (reach_refl s))
  | eof => exact reach_refl s
  | word | num => exact reach_readChars _ (reach_refl s)

theorem baseNextToken_start (nl : Bool) (cs : List Bytes) (s : LS) :
    (baseNextToken nl cs s).1.sl = s.line ∧ (baseNextToken nl cs s).1.sc = s.col ∧
    (baseNextToken nl cs s).1.nl = nl ∧ (baseNextToken nl cs s).1.comments = cs := by
  have h := baseNextToken_cases nl cs s
  generalize baseNextToken nl cs s = r at h ⊢
  cases h <;> exact ⟨rfl, rfl, rfl, rfl⟩


/-! ## progress -/

/-- reached by reading at least one byte -/
def Reach1 (s s' : LS) : Prop := ∃ n, 1 ≤ n ∧ s' = readChars n s

theorem takeWhileLen_pos (p : Nat → Bool) (c : Nat) (r : Bytes) (h : p c = true) : 1 ≤ takeWhileLen p (c :: r) := by
  simp [takeWhileLen, List.takeWhile, h]

/-- an INT or a FLOAT, with a two-byte radix prefix or the leading run of digits inside -/
theorem scanNumber_facts (b : Bytes) :
    ((scanNumber b).2 = .int ∨ (scanNumber b).2 = .float) ∧ (2 ≤ (scanNumber b).1 ∨ takeWhileLen isDigit b ≤ (scanNumber b).1) := by
  unfold scanNumber
  -- the `let`s stay names: substituted, every branch test is a large term, and only `n1 ≤ n2` is needed of them
  extract_lets c p n1 b1 hasFrac n2 b2 b3 sgn b4
  have h12 : n1 ≤ n2 := ite_cases (P := (n1 ≤ ·)) (fun _ => by omega) (fun _ => Nat.le_refl _)
  split
  · exact ⟨Or.inl rfl, Or.inl (Nat.le_add_right ..)⟩
  split
  · exact ⟨Or.inl rfl, Or.inl (Nat.le_add_right ..)⟩
  split
  · exact ⟨Or.inl rfl, Or.inl (Nat.le_add_right ..)⟩
  split
  · split
    · exact ⟨Or.inr rfl, Or.inr (by show n1 ≤ _; omega)⟩
    · exact ⟨Or.inr rfl, Or.inr (by show n1 ≤ _; omega)⟩
  · exact ⟨by cases hasFrac <;> simp, Or.inr h12⟩

theorem scanNumber_type (b : Bytes) : (scanNumber b).2 = .int ∨ (scanNumber b).2 = .float := (scanNumber_facts b).1

theorem scanNumber_pos (b : Bytes) (hne : b ≠ []) (h : isDigit (b.headD 0) = true) : 1 ≤ (scanNumber b).1 := by
  have hn1 : 1 ≤ takeWhileLen isDigit b := by
    cases b with
    | nil => exact absurd rfl hne
    | cons c r => exact takeWhileLen_pos _ _ _ (by simpa using h)
  rcases (scanNumber_facts b).2 with h2 | h2 <;> omega

theorem cur_rest (s : LS) (hne : s.rest ≠ []) : ∃ r, s.rest = s.cur :: r := by
  cases h : s.rest with
  | nil => exact absurd h hne
  | cons c r => exact ⟨r, by simp [LS.cur, h]⟩

theorem baseNextToken_progress (nl : Bool) (cs : List Bytes) (s : LS) (hne : s.rest ≠ []) :
    Reach1 s (baseNextToken nl cs s).2 := by
  have h := baseNextToken_cases nl cs s
  generalize baseNextToken nl cs s = r at h ⊢
  cases h with
  | one | bad => exact ⟨1, Nat.le_refl _, rfl⟩
  | two => exact ⟨2, by omega, rfl⟩
  | str | raw => exact ⟨(1 + _) + 1, by omega, (readChars_add _ 1 s).symm⟩
  | eof he => exact absurd (List.isEmpty_iff.1 he) hne
  | word c hc hl =>
    obtain ⟨r, hr⟩ := cur_rest s hne
    refine ⟨_, ?_, rfl⟩
    rw [hr]; exact takeWhileLen_pos _ _ _ (by simp [hc, hl])
  | num c hc hl hd => exact ⟨_, scanNumber_pos _ hne (by rw [← hc] at hd; exact hd), rfl⟩


/-! ## end of input -/

theorem baseNextToken_at_end (nl : Bool) (cs : List Bytes) (s : LS) (h : s.rest = []) :
    baseNextToken nl cs s = (mkTok .eof [] s s nl cs, s) := by
  unfold baseNextToken
  simp [LS.cur, h]

/-- an identifier, or the type the keyword table gives to this very text -/
theorem lookupIdent_cases (lit : Bytes) : lookupIdent lit = .ident ∨ (lit, lookupIdent lit) ∈ keywordTable := by
  unfold lookupIdent
  split
  · rename_i kv h
    have hk : kv.1 = lit := by simpa using List.find?_some h
    exact Or.inr (hk ▸ List.mem_of_find?_eq_some h)
  · exact Or.inl rfl

theorem keyword_not_eof : ∀ kv ∈ keywordTable, kv.2 ≠ TokType.eof := by decide

theorem lookupIdent_ne_eof (lit : Bytes) : lookupIdent lit ≠ .eof := by
  rcases lookupIdent_cases lit with h | h
  · rw [h]; decide
  · exact keyword_not_eof _ h


/-- EOF is produced only at the real end of the input -/
theorem baseNextToken_eof_only_at_end (nl : Bool) (cs : List Bytes) (s : LS)
    (h : (baseNextToken nl cs s).1.type = .eof) : s.rest = [] := by
  have hb := baseNextToken_cases nl cs s
  generalize baseNextToken nl cs s = r at hb h
  cases hb with
  | one c _ ty hrow => exact absurd h (ops_ne_eof.1 _ hrow)
  | two c p _ _ ty hrow => exact absurd h (ops_ne_eof.2 _ hrow)
  | bad => cases h
  | str | raw => simp only [mkTok] at h; split at h <;> cases h
  | eof he => exact List.isEmpty_iff.1 he
  | word => exact absurd h (lookupIdent_ne_eof _)
  | num => rcases scanNumber_type s.rest with e | e <;> simp only [mkTok, e] at h <;> cases h

theorem nextToken_reach (s : LS) : Reach s (nextToken s).2 := by
  unfold nextToken
  dsimp only
  obtain ⟨n, hn⟩ := baseNextToken_reach (trivia s.rest).nl (trivia s.rest).comments (readChars (trivia s.rest).len s)
  exact ⟨(trivia s.rest).len + n, by rw [hn, readChars_add]⟩

/-- every token other than EOF consumes at least one byte -/
theorem nextToken_progress (s : LS) (h : (nextToken s).1.type ≠ .eof) :
    (nextToken s).2.rest.length < s.rest.length := by
  unfold nextToken at h ⊢
  dsimp only at h ⊢
  generalize hs1 : readChars (trivia s.rest).len s = s1 at h ⊢
  have hle : s1.rest.length ≤ s.rest.length := reach_rest_le ⟨_, hs1.symm⟩
  by_cases hne : s1.rest = []
  · rw [baseNextToken_at_end _ _ _ hne] at h
    exact absurd rfl h
  · obtain ⟨n, hn1, hn⟩ := baseNextToken_progress (trivia s.rest).nl (trivia s.rest).comments s1 hne
    rw [hn]
    exact Nat.lt_of_lt_of_le (readChars_shorter n s1 hn1 hne) hle

/-- at the end of the input `NextToken` returns EOF at the end position and does not move -/
theorem nextToken_at_end (s : LS) (h : s.rest = []) :
    nextToken s = (mkTok .eof [] s s false [], s) := by
  unfold nextToken
  dsimp only
  have ht : trivia s.rest = { nl := false, comments := [], len := 0 } := by rw [h]; rfl
  rw [ht]
  exact baseNextToken_at_end _ _ _ h

/-! ## the token list -/

/-- `lexGo` instrumented with the cursor offsets before (after trivia) and after each token -/
def lexGoO : Nat → LS → List (Token × Nat × Nat)
  | 0, _ => []
  | fuel + 1, s =>
    let s1 := readChars (trivia s.rest).len s
    let r := nextToken s
    if r.1.type == .eof then [(r.1, s1.off, r.2.off)] else (r.1, s1.off, r.2.off) :: lexGoO fuel r.2

theorem lexGoO_tokens (fuel : Nat) (s : LS) : (lexGoO fuel s).map (·.1) = lexGo fuel s := by
  induction fuel generalizing s with
  | zero => rfl
  | succ fuel ih =>
    simp only [lexGoO, lexGo]
    split <;> simp_all

end Xjs
