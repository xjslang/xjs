import XjsModel.Proofs.Lookup
/-
  Print → parse round trip at token level. This file: the spec trees (expressions, statements, their lists) with the
  tokens the printer emits for them and the tree the parser is expected to return, and the facts about levels that
  the Pratt invariant needs. For the operator core — atoms, explicit parentheses, prefix operators, the thirteen
  binary operators, postfix operators, calls, member access (dot and computed), assignment and compound assignment:

    the token sequence that the PRINTER'S parenthesisation rule produces for a tree
    (left operand parenthesised iff its precedence is lower, right operand iff lower OR EQUAL, unary operand iff
    lower than UNARY, postfix operand iff lower than POSTFIX — `ast.go`) is parsed by the Pratt loop of the PARSER
    (binding powers of `parser.go`, right operand parsed at the operator's own level) back to exactly that tree,
    with the printer's parentheses as grouping nodes — for EVERY tree, any depth, any operator combination.

  The proof is the classical Pratt invariant
      parseExpression p (toks s ++ rest) = parseRemaining (tree s) p (last token of s :: rest)
  under `fits p s` (every operator on the left spine binds tighter than p) and `stops (rbl s) rest`
  (the next token cannot continue a loop still open at the right end of s). The two side conditions are exactly
  the printer's `<` (left) and `≤` (right) tests, which is why a slip there, or a disagreement between the two
  precedence tables, breaks the proof. Array, object and function literals and the statements are brackets and
  keywords around such expressions (`RaCases`, `RaStmt`).
-/
namespace Xjs.RA
open Xjs

mutual
  /-- spec expressions: a shape together with the tokens its nodes carry -/
  inductive SE where
    | atom (t : Token)
    | grp (lp : Token) (e : SE) (rp : Token)
    | un (t : Token) (r : SE)
    | bin (t : Token) (l r : SE)
    | post (t : Token) (l : SE)
    | call (t : Token) (f : SE) (args : SEList)
    | dot (t : Token) (o : SE) (p : Token)
    | idx (t : Token) (o : SE) (p : SE)
    | asg (t : Token) (l v : SE)
    | casg (t : Token) (l v : SE)
    | arr (t : Token) (es : SEList)
    | func (t : Token) (name : Option Token) (params : List Token) (body : SSList)
    | obj (t : Token) (props : SPList)
  inductive SEList where
    | nil
    | cons (e : SE) (rest : SEList)
  /-- `key : value` pairs of an object literal -/
  inductive SPList where
    | nil
    | cons (k v : SE) (rest : SPList)
  /-- spec statements -/
  inductive SS where
    | exprS (e : SE) (semi : Bool)
    | letS (t name : Token) (v : SE) (semi : Bool)
    | letN (t name : Token)
    | ret (t : Token) (v : SE) (semi : Bool)
    | retN (t : Token)
    | ifS (t : Token) (c : SE) (thn : SS)
    | ifElse (t : Token) (c : SE) (thn : SS) (el : Token) (els : SS)
    | whileS (t : Token) (c : SE) (body : SS)
    | forS (t : Token) (init : SInit) (cond upd : SOpt) (body : SS)
    | block (body : SSList)
    | funcD (t name : Token) (params : List Token) (body : SSList)
  inductive SSList where
    | nil
    | cons (s : SS) (rest : SSList)
  inductive SOpt where
    | none
    | some (e : SE)
  /-- first clause of a `for` -/
  inductive SInit where
    | none
    | letV (t name : Token) (v : SE)
    | letN (t name : Token)
    | expr (e : SE)
end

def lpT : Token := { type := .lparen, lit := [40], sl := 0, sc := 0, el := 0, ec := 0 }
def rpT : Token := { type := .rparen, lit := [41], sl := 0, sc := 0, el := 0, ec := 0 }
def rbT : Token := { type := .rbracket, lit := [93], sl := 0, sc := 0, el := 0, ec := 0 }
def commaT : Token := { type := .comma, lit := [44], sl := 0, sc := 0, el := 0, ec := 0 }
def semiT : Token := { type := .semicolon, lit := [59], sl := 0, sc := 0, el := 0, ec := 0 }
def colonT : Token := { type := .colon, lit := [58], sl := 0, sc := 0, el := 0, ec := 0 }
def lbrT : Token := { type := .lbrace, lit := [123], sl := 0, sc := 0, el := 0, ec := 0 }
def rbrT : Token := { type := .rbrace, lit := [125], sl := 0, sc := 0, el := 0, ec := 0 }
def assignT : Token := { type := .assign, lit := [61], sl := 0, sc := 0, el := 0, ec := 0 }
def elseT : Token := { type := .else_, lit := [101, 108, 115, 101], sl := 0, sc := 0, el := 0, ec := 0 }

/-- `Precedence()` of the node (the printer's side) -/
def SE.level : SE → Nat
  | .atom _ => precAtomic
  | .grp _ _ _ => precAtomic
  | .un _ _ => precUnary
  | .bin t _ _ => operatorPrecedence t.type
  | .post _ _ => precPostfix
  | .call _ _ _ => precCall
  | .dot _ _ _ => precMember
  | .idx _ _ _ => precMember
  | .asg _ _ _ => precAssignment
  | .casg _ _ _ => precAssignment
  | .arr _ _ => precAtomic
  | .func _ _ _ _ => precAtomic
  | .obj _ _ => precAtomic

def wrapToks (b : Bool) (ts : List Token) : List Token := if b then lpT :: ts ++ [rpT] else ts
def wrapTree (b : Bool) (e : Expr) : Expr := if b then .group lpT e rpT else e

/-- the printer's parenthesisation tests (ast.go) -/
def parenLeft (my : Nat) (l : SE) : Bool := l.level < my
def parenRight (my : Nat) (r : SE) : Bool := r.level ≤ my
def parenUnary (r : SE) : Bool := r.level < precUnary
def parenPostfix (l : SE) : Bool := l.level < precPostfix

/-- parameter names separated by commas -/
def paramToks : List Token → List Token
  | [] => []
  | [p] => [p]
  | p :: ps => p :: commaT :: paramToks ps

/-- the statement terminator, when it is written -/
def semiToks (b : Bool) : List Token := if b then [semiT] else []

def optTok : Option Token → List Token
  | none => []
  | some t => [t]

mutual
  /-- the token sequence the printer emits -/
  def SE.toks : SE → List Token
    | .atom t => [t]
    | .grp lp e rp => lp :: e.toks ++ [rp]
    | .un t r => t :: wrapToks (parenUnary r) r.toks
    | .bin t l r => wrapToks (parenLeft (operatorPrecedence t.type) l) l.toks ++ t ::
                    wrapToks (parenRight (operatorPrecedence t.type) r) r.toks
    | .post t l => wrapToks (parenPostfix l) l.toks ++ [t]
    | .call t f args => f.toks ++ t :: args.toks ++ [rpT]
    | .dot t o p => o.toks ++ [t, p]
    | .idx t o p => o.toks ++ t :: p.toks ++ [rbT]
    | .asg t l v => l.toks ++ t :: v.toks
    | .casg t l v => l.toks ++ t :: v.toks
    | .arr t es => t :: es.toks ++ [rbT]
    | .func t name params body => t :: optTok name ++ lpT :: paramToks params ++ rpT :: lbrT :: body.toks ++ [rbrT]
    | .obj t props => t :: props.toks ++ [rbrT]
  /-- comma-separated -/
  def SEList.toks : SEList → List Token
    | .nil => []
    | .cons e rest => e.toks ++ rest.ctoks
  /-- every element preceded by a comma -/
  def SEList.ctoks : SEList → List Token
    | .nil => []
    | .cons e rest => commaT :: e.toks ++ rest.ctoks
  def SPList.toks : SPList → List Token
    | .nil => []
    | .cons k v rest => k.toks ++ colonT :: v.toks ++ rest.ctoks
  def SPList.ctoks : SPList → List Token
    | .nil => []
    | .cons k v rest => commaT :: k.toks ++ colonT :: v.toks ++ rest.ctoks
  /-- statements: `;` after expression, `let` and `return` statements, none after `}` -/
  def SS.toks : SS → List Token
    | .exprS e semi => e.toks ++ semiToks semi
    | .letS t name v semi => t :: name :: assignT :: v.toks ++ semiToks semi
    | .letN t name => [t, name, semiT]
    | .ret t v semi => t :: v.toks ++ semiToks semi
    | .retN t => [t, semiT]
    | .ifS t c thn => t :: lpT :: c.toks ++ rpT :: thn.toks
    | .ifElse t c thn el els => t :: lpT :: c.toks ++ rpT :: thn.toks ++ el :: els.toks
    | .whileS t c body => t :: lpT :: c.toks ++ rpT :: body.toks
    | .forS t init cond upd body => t :: lpT :: init.toks ++ semiT :: cond.toks ++ semiT :: upd.toks ++ rpT :: body.toks
    | .block body => lbrT :: body.toks ++ [rbrT]
    | .funcD t name params body => t :: name :: lpT :: paramToks params ++ rpT :: lbrT :: body.toks ++ [rbrT]
  def SSList.toks : SSList → List Token
    | .nil => []
    | .cons s rest => s.toks ++ rest.toks
  def SOpt.toks : SOpt → List Token
    | .none => []
    | .some e => e.toks
  def SInit.toks : SInit → List Token
    | .none => []
    | .letV t name v => t :: name :: assignT :: v.toks
    | .letN t name => [t, name]
    | .expr e => e.toks
end

def atomTree (t : Token) : Expr :=
  match lookup basePrefixFns t.type with
  | some .ident => .ident { tok := t, value := t.lit }
  | some .int => .int t
  | some .float => .float t
  | some .string => .str t t.lit
  | some .rawString => .raw t t.lit
  | some .bool => .bool t (t.type == .true_)
  | _ => .null t

def compoundOp (t : Token) : Bytes :=
  if t.type == .plusAssign then [43] else if t.type == .minusAssign then [45] else []

def identOf (t : Token) : Ident := { tok := t, value := t.lit }

mutual
  /-- the tree the parser is expected to return: the printer's parentheses are grouping nodes -/
  def SE.tree : SE → Expr
    | .atom t => atomTree t
    | .grp lp e rp => .group lp e.tree rp
    | .un t r => .unary t t.lit (wrapTree (parenUnary r) r.tree)
    | .bin t l r => .binary t (wrapTree (parenLeft (operatorPrecedence t.type) l) l.tree) t.lit
                      (wrapTree (parenRight (operatorPrecedence t.type) r) r.tree)
    | .post t l => .postfix t (wrapTree (parenPostfix l) l.tree) t.lit
    | .call t f args => .call t f.tree args.tree
    | .dot t o p => .member t o.tree (atomTree p) false
    | .idx t o p => .member t o.tree p.tree true
    | .asg t l v => .assign t l.tree v.tree
    | .casg t l v => .compound t l.tree (compoundOp t) v.tree
    | .arr t es => .array t es.tree rbT
    | .func t name params body => .func t (name.map identOf) (params.map identOf) (.block lbrT body.tree rbrT)
    | .obj t props => .object t props.tree (match props with | .nil => zeroTok | .cons _ _ _ => rbrT)
  def SEList.tree : SEList → ExprList
    | .nil => .nil
    | .cons e rest => .cons e.tree rest.tree
  def SPList.tree : SPList → PropList
    | .nil => .nil
    | .cons k v rest => .cons k.tree v.tree rest.tree
  def SS.tree : SS → Stmt
    | .exprS e _ => .exprS e.tree
    | .letS t name v _ => .letS t (identOf name) v.tree
    | .letN t name => .letS t (identOf name) .none
    | .ret t v _ => .ret t v.tree
    | .retN t => .ret t .none
    | .ifS t c thn => .ifS t c.tree thn.tree .none
    | .ifElse t c thn _ els => .ifS t c.tree thn.tree els.tree
    | .whileS t c body => .whileS t c.tree body.tree
    | .forS t init cond upd body => .forS t init.tree cond.tree upd.tree body.tree
    | .block body => .block lbrT body.tree rbrT
    | .funcD t name params body => .funcD t (identOf name) (params.map identOf) (.block lbrT body.tree rbrT)
  def SSList.tree : SSList → StmtList
    | .nil => .nil
    | .cons s rest => .cons s.tree rest.tree
  def SOpt.tree : SOpt → Expr
    | .none => .none
    | .some e => e.tree
  def SInit.tree : SInit → Expr
    | .none => .none
    | .letV t name v => .letE t (identOf name) v.tree
    | .letN t name => .letE t (identOf name) .none
    | .expr e => e.tree
end

def atomWf (t : Token) : Bool :=
  match lookup basePrefixFns t.type with
  | some .ident | some .string | some .rawString | some .bool | some .null => true
  | some .int => parseIntOk t.lit
  | some .float => parseFloatOk t.lit
  | _ => false

/-- ends with an `if` that has no `else`: an `else` behind it would attach to that `if` -/
def SS.openIf : SS → Bool
  | .ifS _ _ _ => true
  | .ifElse _ _ _ _ els => els.openIf
  | .whileS _ _ body => body.openIf
  | .forS _ _ _ _ body => body.openIf
  | _ => false

def isIdentTok (t : Token) : Bool := t.type == .ident

mutual
  /-- well-formed: every token is of the class its position needs; callee / object / assignment-target positions
      hold call-level-or-tighter expressions (C03's quantifier); an expression statement does not start with `{` or
      `function`; the value of a `return` starts on the line of the `return`, a postfix operator stands on the line of its
      operand; the then-branch of an `if` with `else` does not end with an open `if` -/
  def SE.wf : SE → Bool
    | .atom t => atomWf t
    | .grp lp e rp => lp.type == .lparen && rp.type == .rparen && e.wf
    | .un t r => lookup basePrefixFns t.type == some .unary && r.wf
    | .bin t l r => lookup baseInfixFns t.type == some .binary && l.wf && r.wf
    | .post t l => lookup baseInfixFns t.type == some .postfix && l.wf && !t.nl
    | .call t f args => t.type == .lparen && !t.nl && decide (precCall ≤ f.level) && f.wf && args.wf
    | .dot t o p => t.type == .dot && decide (precCall ≤ o.level) && o.wf && atomWf p
    | .idx t o p => t.type == .lbracket && !t.nl && decide (precCall ≤ o.level) && o.wf && p.wf
    | .asg t l v => t.type == .assign && decide (precCall ≤ l.level) && l.wf && v.wf
    | .casg t l v => (t.type == .plusAssign || t.type == .minusAssign) && decide (precCall ≤ l.level) && l.wf && v.wf
    | .arr t es => t.type == .lbracket && es.wf
    | .func t name params body =>
        t.type == .function && (optTok name).all isIdentTok && params.all isIdentTok && body.wf
    | .obj t props => t.type == .lbrace && props.wf
  def SEList.wf : SEList → Bool
    | .nil => true
    | .cons e rest => e.wf && rest.wf
  def SPList.wf : SPList → Bool
    | .nil => true
    | .cons k v rest => k.wf && v.wf && rest.wf
  def SS.wf : SS → Bool
    | .exprS e _ => e.wf && (e.toks.headD lpT).type != .lbrace && (e.toks.headD lpT).type != .function
    | .letS t name v _ => t.type == .let_ && isIdentTok name && v.wf
    | .letN t name => t.type == .let_ && isIdentTok name
    | .ret t v _ => t.type == .return_ && v.wf && !(v.toks.headD lpT).nl
    | .retN t => t.type == .return_
    | .ifS t c thn => t.type == .if_ && c.wf && thn.wf
    | .ifElse t c thn el els => t.type == .if_ && c.wf && thn.wf && !thn.openIf && els.wf && el.type == .else_
    | .whileS t c body => t.type == .while_ && c.wf && body.wf
    | .forS t init cond upd body => t.type == .for_ && init.wf && cond.wf && upd.wf && body.wf
    | .block body => body.wf
    | .funcD t name params body => t.type == .function && isIdentTok name && params.all isIdentTok && body.wf
  def SSList.wf : SSList → Bool
    | .nil => true
    | .cons s rest => s.wf && rest.wf
  def SOpt.wf : SOpt → Bool
    | .none => true
    | .some e => e.wf
  def SInit.wf : SInit → Bool
    | .none => true
    | .letV t name v => t.type == .let_ && isIdentTok name && v.wf
    | .letN t name => t.type == .let_ && isIdentTok name
    | .expr e => e.wf
end

/-- the statement ends with an expression that no `;` closes -/
def SS.open : SS → Bool
  | .exprS _ semi => !semi
  | .letS _ _ _ semi => !semi
  | .ret _ _ semi => !semi
  | .ifS _ _ thn => thn.open
  | .ifElse _ _ _ _ els => els.open
  | .whileS _ _ body => body.open
  | .forS _ _ _ _ body => body.open
  | _ => false

/-- `ExpectSemicolonASI` accepts the token `f` in place of a `;` (strict mode when `tol = false`) -/
def asiOk (tol : Bool) (f : Token) : Bool :=
  f.type != .semicolon && (f.type == .eof || f.type == .rbrace || (f.nl && f.type != .minusAssign) || tol)

/-- `f` cannot continue an expression at statement level (built-in tables); `sm`: smart-semicolon mode, in which a `(`
    or `[` on a new line does not continue it either -/
def stopsB (sm : Bool) (f : Token) : Bool :=
  decide (precOf { } f.type ≤ 1) || (f.nl && (f.type == .increment || f.type == .decrement)) ||
  (sm && f.nl && (f.type == .lparen || f.type == .lbracket))

/-- the token `f` may follow the statement `s` -/
def followOk (tol sm : Bool) (s : SS) (f : Token) : Bool :=
  (!s.openIf || f.type != .else_) && (!s.open || (asiOk tol f && stopsB sm f))

mutual
  /-- LAYOUT: wherever a statement is not closed by `;`, the token behind it is one at which a semicolon is inserted
      (end of input, `}`, or a token on a new line — anything in tolerant mode) and which cannot continue the
      expression. Depends on the mode only through `tol` (tolerant) and `sm` (smart semicolons). -/
  def SE.lay (tol sm : Bool) : SE → Bool
    | .atom _ => true
    | .grp _ e _ => e.lay tol sm
    | .un _ r => r.lay tol sm
    | .bin _ l r => l.lay tol sm && r.lay tol sm
    | .post _ l => l.lay tol sm
    | .call _ f args => f.lay tol sm && args.lay tol sm
    | .dot _ o _ => o.lay tol sm
    | .idx _ o p => o.lay tol sm && p.lay tol sm
    | .asg _ l v => l.lay tol sm && v.lay tol sm
    | .casg _ l v => l.lay tol sm && v.lay tol sm
    | .arr _ es => es.lay tol sm
    | .func _ _ _ body => body.lay tol sm rbrT
    | .obj _ props => props.lay tol sm
  def SEList.lay (tol sm : Bool) : SEList → Bool
    | .nil => true
    | .cons e rest => e.lay tol sm && rest.lay tol sm
  def SPList.lay (tol sm : Bool) : SPList → Bool
    | .nil => true
    | .cons k v rest => k.lay tol sm && v.lay tol sm && rest.lay tol sm
  def SS.lay (tol sm : Bool) : SS → Bool
    | .exprS e _ => e.lay tol sm
    | .letS _ _ v _ => v.lay tol sm
    | .letN _ _ => true
    | .ret _ v _ => v.lay tol sm
    | .retN _ => true
    | .ifS _ c thn => c.lay tol sm && thn.lay tol sm
    | .ifElse _ c thn el els => c.lay tol sm && thn.lay tol sm && followOk tol sm thn el && els.lay tol sm
    | .whileS _ c body => c.lay tol sm && body.lay tol sm
    | .forS _ i c u body => i.lay tol sm && c.lay tol sm && u.lay tol sm && body.lay tol sm
    | .block body => body.lay tol sm rbrT
    | .funcD _ _ _ body => body.lay tol sm rbrT
  /-- `closer`: the token behind the list (`}` or end of input) -/
  def SSList.lay (tol sm : Bool) : SSList → Token → Bool
    | .nil, _ => true
    | .cons s rest, closer => s.lay tol sm && followOk tol sm s ((rest.toks ++ [closer]).headD closer) && rest.lay tol sm closer
  def SOpt.lay (tol sm : Bool) : SOpt → Bool
    | .none => true
    | .some e => e.lay tol sm
  def SInit.lay (tol sm : Bool) : SInit → Bool
    | .none => true
    | .letV _ _ v => v.lay tol sm
    | .letN _ _ => true
    | .expr e => e.lay tol sm
end

/-- the lowest level of a loop still open at the right end of the expression -/
def SE.rbl : SE → Nat
  | .atom _ => precAtomic
  | .grp _ _ _ => precAtomic
  | .un _ r => if parenUnary r then precUnary else min precUnary r.rbl
  | .bin t _ r => if parenRight (operatorPrecedence t.type) r then operatorPrecedence t.type
                  else min (operatorPrecedence t.type) r.rbl
  | .post _ _ => precAtomic
  | .call _ _ _ => precAtomic
  | .dot _ _ _ => precAtomic
  | .idx _ _ _ => precAtomic
  | .asg _ _ _ => precLowest      -- the value is parsed at the lowest level
  | .casg _ _ _ => precLowest
  | .arr _ _ => precAtomic
  | .func _ _ _ _ => precAtomic
  | .obj _ _ => precAtomic

/-- every operator on the left spine binds tighter than `p` -/
def SE.fits (p : Nat) : SE → Prop
  | .atom _ => True
  | .grp _ _ _ => True
  | .un _ _ => True
  | .arr _ _ => True
  | .func _ _ _ _ => True
  | .obj _ _ => True
  | .bin t l _ => p < operatorPrecedence t.type ∧ (parenLeft (operatorPrecedence t.type) l = true ∨ l.fits p)
  | .post _ l => p < precPostfix ∧ (parenPostfix l = true ∨ l.fits p)
  | .call _ f _ => p < precCall ∧ f.fits p
  | .dot _ o _ => p < precMember ∧ o.fits p
  | .idx _ o _ => p < precMember ∧ o.fits p
  | .asg _ l _ => p < precAssignment ∧ l.fits p
  | .casg _ l _ => p < precAssignment ∧ l.fits p

/-- the parser configurations covered: built-in tables, no interceptors (C04 removes interceptors) -/
structure BaseCfg (cfg : PCfg) : Prop where
  precs : cfg.precs = basePrecedences
  prefixFns : cfg.prefixFns = basePrefixFns
  infixFns : cfg.infixFns = baseInfixFns
  exprI : cfg.exprI = []
  stmtI : cfg.stmtI = []

/-- the next token cannot continue a loop at level `q`: a `;`, a token binding no tighter than `q`, a postfix operator on
    a new line (restricted production), or — in smart-semicolon mode — a `(` / `[` on a new line -/
def stops (cfg : PCfg) (q : Nat) (rest : List Token) : Prop :=
  match rest with
  | t :: _ => t.type = .semicolon ∨ precOf cfg t.type ≤ q ∨
      (t.nl = true ∧ (t.type = .increment ∨ t.type = .decrement)) ∨
      (cfg.smart = true ∧ t.nl = true ∧ (t.type = .lparen ∨ t.type = .lbracket))
  | [] => False

theorem stops_mono {cfg : PCfg} {q q' : Nat} {rest : List Token} (h : stops cfg q rest) (hq : q ≤ q') : stops cfg q' rest := by
  cases rest with
  | nil => exact h
  | cons t r =>
    rcases h with h | h | h | h
    · exact Or.inl h
    · exact Or.inr (Or.inl (Nat.le_trans h hq))
    · exact Or.inr (Or.inr (Or.inl h))
    · exact Or.inr (Or.inr (Or.inr h))

theorem stops_prec {cfg : PCfg} {q : Nat} {t : Token} {rest : List Token} (h : precOf cfg t.type ≤ q) :
    stops cfg q (t :: rest) := Or.inr (Or.inl h)

/-! ### facts about the tables -/

theorem binary_prec (ty : TokType) (h : lookup baseInfixFns ty = some .binary) :
    precOf { } ty = operatorPrecedence ty ∧ 3 ≤ operatorPrecedence ty ∧ operatorPrecedence ty ≤ 8 ∧
    ty ≠ .semicolon ∧ ty ≠ .lparen ∧ ty ≠ .lbracket ∧ ty ≠ .increment ∧ ty ≠ .decrement :=
  (baseInfixFns_rows _ (lookup_mem h)).1 rfl

theorem postfix_prec (ty : TokType) (h : lookup baseInfixFns ty = some .postfix) :
    precOf { } ty = precPostfix ∧ ty ≠ .semicolon ∧ ty ≠ .lparen ∧ ty ≠ .lbracket := by
  rcases postfix_update h with rfl | rfl <;> decide

theorem atomWf_type (t : Token) (h : atomWf t = true) :
    t.type = .ident ∨ t.type = .int ∨ t.type = .float ∨ t.type = .string ∨ t.type = .rawString ∨
    t.type = .true_ ∨ t.type = .false_ ∨ t.type = .null := by
  unfold atomWf at h
  cases hk : lookup basePrefixFns t.type with
  | none => simp [hk] at h
  | some k =>
    have hr := basePrefixFns_rows _ (lookup_mem hk)
    cases k <;> simp_all
    rcases hr with e | e <;> simp [e]

theorem precOf_base {cfg : PCfg} (hc : BaseCfg cfg) (ty : TokType) : precOf cfg ty = precOf { } ty := by
  unfold precOf; rw [hc.precs]

theorem level_ge_three (s : SE) (hw : s.wf = true) (h : s.level ≠ precAssignment) : 3 ≤ s.level := by
  cases s with
  | bin t l r =>
    simp only [SE.wf, Bool.and_eq_true, beq_iff_eq] at hw
    exact (binary_prec t.type hw.1.1).2.1
  | asg t l v => exact absurd rfl h
  | casg t l v => exact absurd rfl h
  | _ => simp only [SE.level]; decide

theorem level_ge_two (s : SE) (hw : s.wf = true) : 2 ≤ s.level := by
  by_cases h : s.level = precAssignment
  · rw [h]; decide
  · exact Nat.le_of_lt (level_ge_three s hw h)

theorem rbl_ge_one : ∀ (s : SE), s.wf = true → 1 ≤ s.rbl
  | .un t r, hw => by
    simp only [SE.wf, Bool.and_eq_true] at hw
    show 1 ≤ (if parenUnary r then precUnary else min precUnary r.rbl)
    split
    · decide
    · exact Nat.le_min.mpr ⟨by decide, rbl_ge_one r hw.2⟩
  | .bin t l r, hw => by
    simp only [SE.wf, Bool.and_eq_true, beq_iff_eq] at hw
    have h3 := (binary_prec t.type hw.1.1).2.1
    show 1 ≤ (if parenRight (operatorPrecedence t.type) r then operatorPrecedence t.type else min (operatorPrecedence t.type) r.rbl)
    split
    · omega
    · exact Nat.le_min.mpr ⟨by omega, rbl_ge_one r hw.2⟩
  | .atom _, _ | .grp _ _ _, _ | .post _ _, _ | .call _ _ _, _ | .dot _ _ _, _ | .idx _ _ _, _ | .asg _ _ _, _
  | .casg _ _ _, _ | .arr _ _, _ | .func _ _ _ _, _ | .obj _ _, _ => by simp only [SE.rbl]; decide

/-- except for assignments (whose value is parsed at the lowest level) nothing below the node's own level is open at
    its right end -/
theorem level_le_rbl : ∀ (s : SE), s.wf = true → s.level ≠ precAssignment → s.level ≤ s.rbl
  | .un t r, hw, _ => by
    simp only [SE.wf, Bool.and_eq_true] at hw
    show precUnary ≤ (if parenUnary r then precUnary else min precUnary r.rbl)
    by_cases h : parenUnary r = true
    · rw [if_pos h]; exact Nat.le_refl _
    · rw [if_neg h]
      have h' : precUnary ≤ r.level := by simpa [parenUnary] using h
      have hne : r.level ≠ precAssignment := by unfold precUnary precAssignment at *; omega
      exact Nat.le_min.mpr ⟨Nat.le_refl _, Nat.le_trans h' (level_le_rbl r hw.2 hne)⟩
  | .bin t l r, hw, _ => by
    simp only [SE.wf, Bool.and_eq_true, beq_iff_eq] at hw
    have h3 := (binary_prec t.type hw.1.1).2.1
    show operatorPrecedence t.type ≤ (if parenRight (operatorPrecedence t.type) r then operatorPrecedence t.type
        else min (operatorPrecedence t.type) r.rbl)
    by_cases h : parenRight (operatorPrecedence t.type) r = true
    · rw [if_pos h]; exact Nat.le_refl _
    · rw [if_neg h]
      have h' : operatorPrecedence t.type < r.level := by simpa [parenRight] using h
      have hr : r.level ≠ precAssignment := by unfold precAssignment; omega
      exact Nat.le_min.mpr ⟨Nat.le_refl _, Nat.le_trans (Nat.le_of_lt h') (level_le_rbl r hw.2 hr)⟩
  | .asg _ _ _, _, h | .casg _ _ _, _, h => absurd rfl h
  | .atom _, _, _ | .grp _ _ _, _, _ | .post _ _, _, _ | .call _ _ _, _, _ | .dot _ _ _, _, _ | .idx _ _ _, _, _
  | .arr _ _, _, _ | .func _ _ _ _, _, _ | .obj _ _, _, _ => by simp only [SE.level, SE.rbl]; decide

def _root_.Xjs.ExprList.app : ExprList → ExprList → ExprList
  | .nil, b => b
  | .cons e t, b => .cons e (t.app b)

theorem ExprList.snoc_app : ∀ (a : ExprList) (e : Expr) (b : ExprList), (a.snoc e).app b = a.app (.cons e b)
  | .nil, _, _ => rfl
  | .cons x t, e, b => by simp [ExprList.snoc, ExprList.app, ExprList.snoc_app t e b]

theorem ExprList.app_nil : ∀ (a : ExprList), a.app .nil = a
  | .nil => rfl
  | .cons x t => by simp [ExprList.app, ExprList.app_nil t]

theorem toks_ne_nil (s : SE) : s.toks ≠ [] := by
  cases s <;> simp [SE.toks, wrapToks] <;> (try split) <;> simp

/-- every operator of the left spine binds tighter than `q`, when the node itself does; the parser only ever asks at
    levels up to POSTFIX -/
theorem fits_of_level : ∀ (s : SE), s.wf = true → ∀ (q : Nat), q < s.level → q ≤ 10 → s.fits q
  | .atom _, _, _, _, _ | .grp _ _ _, _, _, _, _ | .un _ _, _, _, _, _ | .arr _ _, _, _, _, _ | .func _ _ _ _, _, _, _, _
  | .obj _ _, _, _, _, _ => trivial
  | .bin t l r, hw, q, h, h10 => by
    simp only [SE.wf, Bool.and_eq_true] at hw
    have h' : q < operatorPrecedence t.type := h
    refine ⟨h', ?_⟩
    by_cases hp : parenLeft (operatorPrecedence t.type) l = true
    · exact Or.inl hp
    · have hp' : operatorPrecedence t.type ≤ l.level := by simpa [parenLeft] using hp
      exact Or.inr (fits_of_level l hw.1.2 q (Nat.lt_of_lt_of_le h' hp') h10)
  | .post t l, hw, q, h, h10 => by
    simp only [SE.wf, Bool.and_eq_true] at hw
    have h' : q < precPostfix := h
    refine ⟨h', ?_⟩
    by_cases hp : parenPostfix l = true
    · exact Or.inl hp
    · have hp' : precPostfix ≤ l.level := by simpa [parenPostfix] using hp
      exact Or.inr (fits_of_level l hw.1.2 q (Nat.lt_of_lt_of_le h' hp') h10)
  -- the suffix forms: the left part is call-level or tighter, and `q` is at most POSTFIX
  | .call t f args, hw, q, h, h10 => by
    simp only [SE.wf, Bool.and_eq_true, decide_eq_true_eq] at hw
    exact ⟨h, fits_of_level f hw.1.2 q (Nat.lt_of_le_of_lt h10 hw.1.1.2) h10⟩
  | .dot t o p, hw, q, h, h10 => by
    simp only [SE.wf, Bool.and_eq_true, decide_eq_true_eq] at hw
    exact ⟨h, fits_of_level o hw.1.2 q (Nat.lt_of_le_of_lt h10 hw.1.1.2) h10⟩
  | .idx t l _, hw, q, h, h10 | .asg t l _, hw, q, h, h10 | .casg t l _, hw, q, h, h10 => by
    simp only [SE.wf, Bool.and_eq_true, decide_eq_true_eq] at hw
    exact ⟨h, fits_of_level l hw.1.2 q (Nat.lt_of_le_of_lt h10 hw.1.1.2) h10⟩

/-- everything may stand where an expression is parsed at the lowest level -/
theorem fits_lowest (s : SE) (hw : s.wf = true) : s.fits LOWEST :=
  fits_of_level s hw LOWEST (level_ge_two s hw) (by decide)

/-- an expression starts with a token that has a prefix role -/
theorem head_prefix : ∀ (s : SE), s.wf = true → ∃ t ts, s.toks = t :: ts ∧ (lookup basePrefixFns t.type).isSome = true
  | .atom t, hw => by
    simp only [SE.wf] at hw
    unfold atomWf at hw
    refine ⟨t, [], rfl, ?_⟩
    cases h : lookup basePrefixFns t.type <;> simp_all
  | .grp lp e rp, hw => by
    simp only [SE.wf, Bool.and_eq_true, beq_iff_eq] at hw
    exact ⟨lp, e.toks ++ [rp], rfl, by rw [hw.1.1]; decide⟩
  | .un t r, hw => by
    simp only [SE.wf, Bool.and_eq_true, beq_iff_eq] at hw
    exact ⟨t, _, rfl, by rw [hw.1]; rfl⟩
  | .arr t es, hw => by
    simp only [SE.wf, Bool.and_eq_true, beq_iff_eq] at hw
    exact ⟨t, _, rfl, by rw [hw.1]; decide⟩
  | .func t name params body, hw => by
    simp only [SE.wf, Bool.and_eq_true, beq_iff_eq] at hw
    exact ⟨t, _, rfl, by rw [hw.1.1.1]; decide⟩
  | .obj t props, hw => by
    simp only [SE.wf, Bool.and_eq_true, beq_iff_eq] at hw
    exact ⟨t, _, rfl, by rw [hw.1]; decide⟩
  -- a left operand: its own first token, or the printer's `(`
  | .bin t l r, hw => by
    simp only [SE.wf, Bool.and_eq_true] at hw
    obtain ⟨a, as, h1, h2⟩ := head_prefix l hw.1.2
    by_cases hp : parenLeft (operatorPrecedence t.type) l = true
    · exact ⟨lpT, _, by simp [SE.toks, wrapToks, hp]; rfl, by decide⟩
    · exact ⟨a, _, by simp [SE.toks, wrapToks, hp, h1]; rfl, h2⟩
  | .post t l, hw => by
    simp only [SE.wf, Bool.and_eq_true] at hw
    obtain ⟨a, as, h1, h2⟩ := head_prefix l hw.1.2
    by_cases hp : parenPostfix l = true
    · exact ⟨lpT, _, by simp [SE.toks, wrapToks, hp]; rfl, by decide⟩
    · exact ⟨a, _, by simp [SE.toks, wrapToks, hp, h1]; rfl, h2⟩
  -- the suffix forms start with their left part
  | .call t f args, hw => by
    simp only [SE.wf, Bool.and_eq_true] at hw
    obtain ⟨a, as, h1, h2⟩ := head_prefix f hw.1.2
    exact ⟨a, _, by simp [SE.toks, h1]; rfl, h2⟩
  | .dot t o p, hw => by
    simp only [SE.wf, Bool.and_eq_true] at hw
    obtain ⟨a, as, h1, h2⟩ := head_prefix o hw.1.2
    exact ⟨a, _, by simp [SE.toks, h1]; rfl, h2⟩
  | .idx t l _, hw | .asg t l _, hw | .casg t l _, hw => by
    simp only [SE.wf, Bool.and_eq_true] at hw
    obtain ⟨a, as, h1, h2⟩ := head_prefix l hw.1.2
    exact ⟨a, _, by simp [SE.toks, h1]; rfl, h2⟩

/-- nothing binds tighter than MEMBER -/
theorem precOf_le_member (ty : TokType) : precOf { } ty ≤ 12 := by
  rcases precOf_mem { } ty with h | h
  · rw [h]; decide
  · exact (basePrecedences_rows _ h).2.1

end Xjs.RA
