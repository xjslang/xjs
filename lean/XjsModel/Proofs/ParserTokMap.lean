import XjsModel.Proofs.ParseRel
/-
  Parsing commutes with a map on tokens. The parser reads of a token its literal, its after-newline flag and its type,
  the type only by comparing it with the types it names and by looking it up in its tables; everything else of a token
  is only copied — into the tree, into error ranges, into the trace. So a map on tokens that preserves what is read
  (`TokMap`) maps every path of the parser to the path of the same name over the mapped token list (`Parse.mapTok`).
  Renaming operator tokens (C05, `ParserRen.lean`) and erasing positions (C03, `ParserPos.lean`) are the two instances.
-/
namespace Xjs

/-- token types the parser never tests for directly: registered (dynamic) types and the built-in operators that occur
    only in the tables -/
def Ren.movable : TokType → Bool
  | .dyn _ => true
  | .plus | .minus | .multiply | .divide | .modulo | .eq | .notEq | .lt | .gt | .lte | .gte | .and | .or | .not => true
  | _ => false

open Ren (movable)

def Ident.mapTok (f : Token → Token) (i : Ident) : Ident := { i with tok := f i.tok }

mutual
  def Expr.mapTok (f : Token → Token) : Expr → Expr
    | .none => .none
    | .ident id => .ident (id.mapTok f)
    | .int t => .int (f t)
    | .float t => .float (f t)
    | .str t v => .str (f t) v
    | .raw t v => .raw (f t) v
    | .bool t v => .bool (f t) v
    | .null t => .null (f t)
    | .letE t n v => .letE (f t) (n.mapTok f) (v.mapTok f)
    | .binary t l op r => .binary (f t) (l.mapTok f) op (r.mapTok f)
    | .unary t op r => .unary (f t) op (r.mapTok f)
    | .postfix t l op => .postfix (f t) (l.mapTok f) op
    | .group t e rp => .group (f t) (e.mapTok f) (f rp)
    | .call t fn args => .call (f t) (fn.mapTok f) (args.mapTok f)
    | .member t o p c => .member (f t) (o.mapTok f) (p.mapTok f) c
    | .assign t l v => .assign (f t) (l.mapTok f) (v.mapTok f)
    | .compound t l op v => .compound (f t) (l.mapTok f) op (v.mapTok f)
    | .func t name ps body => .func (f t) (name.map (Ident.mapTok f)) (ps.map (Ident.mapTok f)) (body.mapTok f)
    | .array t es rb => .array (f t) (es.mapTok f) (f rb)
    | .object t ps rb => .object (f t) (ps.mapTok f) (f rb)
  def Stmt.mapTok (f : Token → Token) : Stmt → Stmt
    | .none => .none
    | .letS t n v => .letS (f t) (n.mapTok f) (v.mapTok f)
    | .ret t v => .ret (f t) (v.mapTok f)
    | .exprS e => .exprS (e.mapTok f)
    | .funcD t n ps body => .funcD (f t) (n.mapTok f) (ps.map (Ident.mapTok f)) (body.mapTok f)
    | .block t ss rb => .block (f t) (ss.mapTok f) (f rb)
    | .ifS t c a b => .ifS (f t) (c.mapTok f) (a.mapTok f) (b.mapTok f)
    | .whileS t c b => .whileS (f t) (c.mapTok f) (b.mapTok f)
    | .forS t i c u b => .forS (f t) (i.mapTok f) (c.mapTok f) (u.mapTok f) (b.mapTok f)
  def ExprList.mapTok (f : Token → Token) : ExprList → ExprList
    | .nil => .nil
    | .cons e t => .cons (e.mapTok f) (t.mapTok f)
  def StmtList.mapTok (f : Token → Token) : StmtList → StmtList
    | .nil => .nil
    | .cons s t => .cons (s.mapTok f) (t.mapTok f)
  def PropList.mapTok (f : Token → Token) : PropList → PropList
    | .nil => .nil
    | .cons k v t => .cons (k.mapTok f) (v.mapTok f) (t.mapTok f)
end

def Event.mapTok (f : Token → Token) (e : Event) : Event := { e with cur := f e.cur }

/-- A map on tokens, with what it does to token types and to the range of a recorded error, that preserves what the
    parser of `cfg` reads of a token. -/
structure TokMap (cfg : PCfg) where
  tok : Token → Token
  ty : TokType → TokType
  err : PErr → PErr
  type_tok : ∀ t, (tok t).type = ty t.type
  lit_tok : ∀ t, (tok t).lit = t.lit
  nl_tok : ∀ t, (tok t).nl = t.nl
  tok_eofAgain : ∀ t, tok (eofAgain t) = eofAgain (tok t)
  tok_dummy : tok dummyTok = dummyTok
  tok_zero : tok zeroTok = zeroTok
  err_at : ∀ msg t, err { msg := msg, sl := t.sl, sc := t.sc, el := t.el, ec := t.ec } =
    { msg := msg, sl := (tok t).sl, sc := (tok t).sc, el := (tok t).el, ec := (tok t).ec }
  /-- the types the parser names are kept, and nothing is mapped to them -/
  ty_eq_iff : ∀ c, movable c = false → ∀ t, ty t = c ↔ t = c
  precs : ∀ t, lookup cfg.precs (ty t) = lookup cfg.precs t
  prefixFns : ∀ t, lookup cfg.prefixFns (ty t) = lookup cfg.prefixFns t
  infixFns : ∀ t, lookup cfg.infixFns (ty t) = lookup cfg.infixFns t

variable {cfg : PCfg} (m : TokMap cfg)

/-- the parser state over the mapped token list -/
def PS.mapTok (st : PS) : PS :=
  { st with toks := st.toks.map m.tok, errors := st.errors.map m.err, trace := st.trace.map (Event.mapTok m.tok),
            consumed := st.consumed.map m.ty }

/-- the map on the trees and tokens a call is handed -/
def Call.mapTok (f : Token → Token) : {k : Kind} → Call k → Call k
  | _, .endStmt s => .endStmt (s.mapTok f)
  | _, .remaining left prec => .remaining (left.mapTok f) prec
  | _, .infix left => .infix (left.mapTok f)
  | _, .funcTail tok name => .funcTail (f tok) (name.map (Ident.mapTok f))
  | _, .exprListLoop acc => .exprListLoop (acc.mapTok f)
  | _, .objLoop acc => .objLoop (acc.mapTok f)
  | _, .blockLoop acc => .blockLoop (acc.mapTok f)
  | _, .programLoop acc => .programLoop (acc.mapTok f)
  | _, .paramsLoop acc => .paramsLoop (acc.map (Ident.mapTok f))
  | _, c => c

/-- the map on what a call returns -/
def Kind.mapTok (f : Token → Token) : (k : Kind) → k.type → k.type
  | .stmt, s => s.mapTok f
  | .expr, e => e.mapTok f
  | .exprs, l => l.mapTok f
  | .stmts, l => l.mapTok f
  | .props, o => o.map (PropList.mapTok f)
  | .idents, l => l.map (Ident.mapTok f)

/-- the token type a call is told to stop at is one of those the parser names -/
def Call.Named : {k : Kind} → Call k → Prop
  | _, .exprList endTy => movable endTy = false
  | _, .optExpr stop => movable stop = false
  | _, _ => True

namespace TokMap

theorem beq_ty (c : TokType) (hc : movable c = false) (t : TokType) : (m.ty t == c) = (t == c) := by
  rw [Bool.eq_iff_iff, beq_iff_eq, beq_iff_eq, m.ty_eq_iff c hc]

theorem bne_ty (c : TokType) (hc : movable c = false) (t : TokType) : (m.ty t != c) = (t != c) := by
  simp only [bne, m.beq_ty c hc]

theorem ty_fixed (c : TokType) (hc : movable c = false) : m.ty c = c := (m.ty_eq_iff c hc c).2 rfl

/-- the statement keywords are named, so a mapped token starts the same kind of statement -/
theorem stmtCall_ty (t : TokType) : stmtCall (m.ty t) = stmtCall t := by
  have hm : ∀ u, movable u = true → stmtCall u = .exprS := by
    intro u hu; cases u <;> first | rfl | cases hu
  cases hu : movable (m.ty t)
  · exact congrArg stmtCall ((m.ty_eq_iff _ hu t).1 rfl).symm
  · cases ht : movable t
    · rw [m.ty_fixed t ht]
    · rw [hm _ hu, hm _ ht]

theorem compoundOp_tok (t : Token) : compoundOp (m.tok t) = compoundOp t := by
  simp (disch := decide) only [compoundOp, m.type_tok, m.beq_ty]

end TokMap

theorem Call.mapTok_stmtCall (f : Token → Token) (t : TokType) : (stmtCall t).mapTok f = stmtCall t := by
  unfold stmtCall; split <;> rfl

theorem Stmt.isNone_mapTok (f : Token → Token) (s : Stmt) : (s.mapTok f).isNone = s.isNone := by
  cases s <;> rfl

theorem ExprList.mapTok_snoc (f : Token → Token) : ∀ (l : ExprList) (e : Expr),
    (l.snoc e).mapTok f = (l.mapTok f).snoc (e.mapTok f)
  | .nil, e => by simp [ExprList.snoc, ExprList.mapTok]
  | .cons x t, e => by simp [ExprList.snoc, ExprList.mapTok, ExprList.mapTok_snoc f t e]
theorem StmtList.mapTok_snoc (f : Token → Token) : ∀ (l : StmtList) (s : Stmt),
    (l.snoc s).mapTok f = (l.mapTok f).snoc (s.mapTok f)
  | .nil, s => by simp [StmtList.snoc, StmtList.mapTok]
  | .cons x t, s => by simp [StmtList.snoc, StmtList.mapTok, StmtList.mapTok_snoc f t s]
theorem PropList.mapTok_snoc (f : Token → Token) : ∀ (l : PropList) (k v : Expr),
    (l.snoc k v).mapTok f = (l.mapTok f).snoc (k.mapTok f) (v.mapTok f)
  | .nil, k, v => by simp [PropList.snoc, PropList.mapTok]
  | .cons a b t, k, v => by simp [PropList.snoc, PropList.mapTok, PropList.mapTok_snoc f t k v]

/-- the accumulator step of the statement loops -/
theorem StmtList.mapTok_ite (f : Token → Token) (acc : StmtList) (s : Stmt) :
    (if s.isNone then acc else acc.snoc s).mapTok f =
      if (s.mapTok f).isNone then acc.mapTok f else (acc.mapTok f).snoc (s.mapTok f) := by
  rw [apply_ite (StmtList.mapTok f), StmtList.mapTok_snoc, Stmt.isNone_mapTok]

namespace PS

theorem cur_mapTok (st : PS) : (st.mapTok m).cur = m.tok st.cur := by
  unfold PS.cur PS.mapTok
  cases st.toks <;> simp [m.tok_dummy]

theorem peek_mapTok (st : PS) : (st.mapTok m).peek = m.tok st.peek := by
  unfold PS.peek PS.mapTok
  match st.toks with
  | [] => simp [m.tok_dummy]
  | [a] => simp [m.tok_eofAgain]
  | a :: b :: r => simp

theorem next_mapTok (st : PS) : (st.mapTok m).next = st.next.mapTok m := by
  unfold PS.next
  match h : st.toks with
  | [] => simp [PS.mapTok, h, m.ty_fixed .eof rfl, dummyTok]
  | [a] => simp [PS.mapTok, h, m.type_tok, m.tok_eofAgain]
  | a :: b :: r => simp [PS.mapTok, h, m.type_tok]

theorem addErrorAt_mapTok (st : PS) (msg : Bytes) (t : Token) :
    (st.mapTok m).addErrorAt msg (m.tok t) = (st.addErrorAt msg t).mapTok m := by
  simp [PS.addErrorAt, PS.mapTok, m.err_at]
theorem addError_mapTok (st : PS) (msg : Bytes) : (st.mapTok m).addError msg = (st.addError msg).mapTok m := by
  unfold PS.addError; rw [cur_mapTok, addErrorAt_mapTok]
theorem push_mapTok (st : PS) (c : Ctx) : (st.mapTok m).push c = (st.push c).mapTok m := rfl
theorem pop_mapTok (st : PS) : (st.mapTok m).pop = st.pop.mapTok m := rfl

theorem cur_lit_mapTok (st : PS) : (st.mapTok m).cur.lit = st.cur.lit := by rw [cur_mapTok, m.lit_tok]
theorem cur_type_beq (c : TokType) (hc : movable c = false) (st : PS) :
    ((st.mapTok m).cur.type == c) = (st.cur.type == c) := by
  rw [cur_mapTok, m.type_tok, m.beq_ty c hc]

theorem event_mapTok (st : PS) (b : Bool) (id : Nat) :
    (st.mapTok m).event b id = (st.event b id).mapTok m.tok := by
  unfold PS.event; rw [cur_mapTok]; rfl

theorem mapTok_setBoth (st : PS) (p : Nat) (b : Bool) (id : Nat) :
    PS.mapTok m { st with curPrec := p, trace := st.trace ++ [st.event b id] } =
      { st.mapTok m with curPrec := p, trace := (st.mapTok m).trace ++ [(st.mapTok m).event b id] } := by
  rw [event_mapTok]; simp [PS.mapTok]
theorem mapTok_setPrec (st : PS) (p : Nat) :
    PS.mapTok m { st with curPrec := p } = { st.mapTok m with curPrec := p } := rfl

end PS

theorem expectToken_mapTok (ty : TokType) (hty : movable ty = false) (st : PS) :
    expectToken ty (st.mapTok m) = ((expectToken ty st).1, (expectToken ty st).2.mapTok m) := by
  unfold expectToken
  rw [PS.peek_mapTok, m.type_tok, m.beq_ty ty hty]
  split
  · rw [PS.next_mapTok]
  · rw [PS.addErrorAt_mapTok]
theorem expectToken_mapTok_snd (ty : TokType) (hty : movable ty = false) (st : PS) :
    (expectToken ty (st.mapTok m)).2 = (expectToken ty st).2.mapTok m := by rw [expectToken_mapTok m ty hty]

theorem shouldInsert_mapTok (st : PS) : shouldInsertSemicolon (st.mapTok m) = shouldInsertSemicolon st := by
  simp (disch := decide) only [shouldInsertSemicolon, asiContinuation, List.contains_cons, List.contains_nil,
    PS.peek_mapTok, m.type_tok, m.nl_tok, m.beq_ty]

theorem expectSemi_mapTok (st : PS) :
    expectSemiASI cfg (st.mapTok m) = ((expectSemiASI cfg st).1, (expectSemiASI cfg st).2.mapTok m) := by
  unfold expectSemiASI
  rw [shouldInsert_mapTok, PS.peek_mapTok, m.type_tok, m.beq_ty _ rfl]
  split
  · rw [PS.next_mapTok]
  · split
    · rfl
    · split
      · rfl
      · rw [PS.addErrorAt_mapTok]
theorem expectSemi_mapTok_snd (st : PS) : (expectSemiASI cfg (st.mapTok m)).2 = (expectSemiASI cfg st).2.mapTok m := by
  rw [expectSemi_mapTok]

theorem peekPrecedence_mapTok (st : PS) : peekPrecedence cfg (st.mapTok m) = peekPrecedence cfg st := by
  rw [peekPrecedence, precOf, PS.peek_mapTok, m.type_tok, m.precs]; rfl
theorem curPrecedence_mapTok (st : PS) : curPrecedence cfg (st.mapTok m) = curPrecedence cfg st := by
  rw [curPrecedence, precOf, PS.cur_mapTok, m.type_tok, m.precs]; rfl

theorem identOfCur_mapTok (st : PS) : identOfCur (st.mapTok m) = (identOfCur st).mapTok m.tok := by
  simp [identOfCur, Ident.mapTok, PS.cur_mapTok, m.lit_tok]

theorem continues_mapTok (prec : Nat) (st : PS) : continues cfg prec (st.mapTok m) = continues cfg prec st := by
  simp (disch := decide) only [continues, PS.peek_mapTok, m.type_tok, m.nl_tok, peekPrecedence_mapTok, m.bne_ty,
    m.beq_ty]
theorem returnsValue_mapTok (st : PS) : returnsValue (st.mapTok m) = returnsValue st := by
  simp (disch := decide) only [returnsValue, PS.peek_mapTok, m.type_tok, m.nl_tok, m.bne_ty]
theorem unclosed_mapTok (st : PS) : unclosed cfg (st.mapTok m) = unclosed cfg st := by
  simp (disch := decide) only [unclosed, PS.cur_mapTok, m.type_tok, m.bne_ty]

/-- a premise of a constructor of `Parse` about `st.mapTok m` is the premise about `st` that is among the hypotheses -/
local macro "side" : tactic => `(tactic| simpa (disch := first | assumption | decide) only [PS.cur_mapTok,
  PS.peek_mapTok, PS.next_mapTok, TokMap.type_tok, TokMap.lit_tok, TokMap.nl_tok, expectToken_mapTok, expectSemi_mapTok,
  ne_eq, TokMap.ty_eq_iff, TokMap.beq_ty, TokMap.bne_ty, TokMap.prefixFns, TokMap.infixFns, continues_mapTok,
  returnsValue_mapTok, unclosed_mapTok, TokMap.compoundOp_tok])

/-- After the maps are pushed inwards, to the variables, each path is the path with the same name from the induction
    hypotheses. What is left are the places where the parser copies a token's literal or tests its type without
    naming the state (`st.cur.lit`, `curPrecedence cfg st.next`): rewriting them towards `st.mapTok m` would loop, so
    they are rewritten by hand. -/
theorem Parse.mapTok {E : Prop} {k : Kind} {c : Call k} {st : PS} {x : k.type} {st' : PS}
    (h : Parse cfg E c st x st') :
    c.Named → Parse cfg E (c.mapTok m.tok) (st.mapTok m) (Kind.mapTok m.tok k x) (st'.mapTok m) := by
  induction h
  case base ih =>
    refine fun _ => .base ?_
    rw [PS.cur_mapTok, m.type_tok, m.stmtCall_ty, ← Call.mapTok_stmtCall m.tok]
    exact ih (by unfold stmtCall; split <;> trivial)
  all_goals intro hf
  all_goals simp +decide (disch := first | assumption | decide) only [Call.Named, Call.mapTok, Kind.mapTok,
    true_implies, Expr.mapTok, Stmt.mapTok, ExprList.mapTok, StmtList.mapTok, PropList.mapTok, ExprList.mapTok_snoc,
    PropList.mapTok_snoc, StmtList.mapTok_ite, Option.map_none, Option.map_some, List.map_nil, List.map_cons,
    List.map_append, m.tok_zero, ← PS.cur_mapTok, ← identOfCur_mapTok, ← PS.next_mapTok, ← expectToken_mapTok_snd,
    ← expectSemi_mapTok_snd, PS.mapTok_setBoth, PS.mapTok_setPrec, ← PS.addError_mapTok, ← PS.push_mapTok,
    ← PS.pop_mapTok] at *
  case stmtI_nil => exact .stmtI_nil ‹_›
  case stmtI_cons => exact .stmtI_cons ‹_›
  case endStmt => exact .endStmt (by side)
  case endStmt_err => exact .endStmt_err ‹_› (by side)
  case exprS => exact .exprS ‹_› ‹_›
  case letS_err => exact .letS_err ‹_› (by side)
  case letS_init => exact .letS_init (by side) (by side) ‹_› ‹_›
  case letS_bare => exact .letS_bare (by side) (by side) ‹_›
  case letE_err => exact .letE_err ‹_› (by side)
  case letE_init => exact .letE_init (by side) (by side) ‹_›
  case letE_bare => exact .letE_bare (by side) (by side)
  case funcS_errName => exact .funcS_errName ‹_› (by side)
  case funcS_errParen => exact .funcS_errParen ‹_› (by side) (by side)
  case funcS_errBrace => exact .funcS_errBrace ‹_› (by side) (by side) ‹_› (by side)
  case funcS => exact .funcS (by side) (by side) ‹_› (by side) ‹_›
  case ret_value => exact .ret_value (by side) ‹_› ‹_›
  case ret_bare => exact .ret_bare (by side) ‹_›
  case ifS_errParen => exact .ifS_errParen ‹_› (by side)
  case ifS_errClose => exact .ifS_errClose ‹_› (by side) ‹_› (by side)
  case ifS_else => exact .ifS_else (by side) ‹_› (by side) ‹_› (by side) ‹_›
  case ifS_bare => exact .ifS_bare (by side) ‹_› (by side) ‹_› (by side)
  case whileS_errParen => exact .whileS_errParen ‹_› (by side)
  case whileS_errClose => exact .whileS_errClose ‹_› (by side) ‹_› (by side)
  case whileS => exact .whileS (by side) ‹_› (by side) ‹_›
  case forInit_let => exact .forInit_let (by side) (by side) ‹_›
  case forInit_expr => exact .forInit_expr (by side) (by side) ‹_›
  case forInit_none => exact .forInit_none (by side)
  case optExpr_some => exact .optExpr_some (by side) ‹_›
  case optExpr_none => exact .optExpr_none (by side)
  case forS_errParen => exact .forS_errParen ‹_› (by side)
  case forS_errSemi1 => exact .forS_errSemi1 ‹_› (by side) ‹_› (by side)
  case forS_errSemi2 => exact .forS_errSemi2 ‹_› (by side) ‹_› (by side) ‹_› (by side)
  case forS_errClose => exact .forS_errClose ‹_› (by side) ‹_› (by side) ‹_› (by side) ‹_› (by side)
  case forS => exact .forS (by side) ‹_› (by side) ‹_› (by side) ‹_› (by side) ‹_›
  case blockLoop_stop => exact .blockLoop_stop (by side)
  case blockLoop_step => exact .blockLoop_step (by side) ‹_› ‹_›
  case block => exact .block ‹_› (by side)
  case block_unclosed => exact .block_unclosed ‹_› ‹_› (by side)
  case programLoop_stop => exact .programLoop_stop (by side)
  case programLoop_step => exact .programLoop_step (by side) ‹_› ‹_›
  case exprI_nil => exact .exprI_nil ‹_› ‹_›
  case exprI_observe => exact .exprI_observe ‹_› ‹_›
  case exprI_reenter => exact .exprI_reenter ‹_› ‹_› ‹_›
  case remaining_stop => exact .remaining_stop (by side)
  case remaining_step => exact .remaining_step (by side) ‹_› ‹_›
  case prefix_err => rw [← PS.cur_lit_mapTok m]; exact .prefix_err ‹_› (by side)
  case prefix_ident => exact .prefix_ident (by side)
  case prefix_int => exact .prefix_int (by side) (by side)
  case prefix_intErr => rw [← PS.cur_lit_mapTok m]; exact .prefix_intErr ‹_› (by side) (by side)
  case prefix_float => exact .prefix_float (by side) (by side)
  case prefix_floatErr => rw [← PS.cur_lit_mapTok m]; exact .prefix_floatErr ‹_› (by side) (by side)
  case prefix_string => rw [← PS.cur_lit_mapTok m]; exact .prefix_string (by side)
  case prefix_raw => rw [← PS.cur_lit_mapTok m]; exact .prefix_raw (by side)
  case prefix_bool => rw [← PS.cur_type_beq m .true_ rfl]; exact .prefix_bool (by side)
  case prefix_null => exact .prefix_null (by side)
  case prefix_unary => rw [← PS.cur_lit_mapTok m]; exact .prefix_unary (by side) ‹_›
  case prefix_group => exact .prefix_group (by side) ‹_› (by side)
  case prefix_groupErr => exact .prefix_groupErr ‹_› (by side) ‹_› (by side)
  case prefix_array => exact .prefix_array (by side) ‹_›
  case prefix_object => exact .prefix_object (by side) ‹_›
  case prefix_func => exact .prefix_func (by side) ‹_›
  case infix_none => exact .infix_none (by side)
  case infix_binary ih =>
    rw [← curPrecedence_mapTok m, ← PS.next_mapTok] at ih
    rw [← PS.cur_lit_mapTok m, ← PS.next_mapTok]
    exact .infix_binary (by side) ih
  case infix_assign => exact .infix_assign (by side) ‹_›
  case infix_compound => exact .infix_compound (by side) (by side) ‹_›
  case infix_call => exact .infix_call (by side) ‹_›
  case infix_member => exact .infix_member (by side) ‹_›
  case infix_index => exact .infix_index (by side) ‹_› (by side)
  case infix_indexErr => exact .infix_indexErr ‹_› (by side) ‹_› (by side)
  case infix_postfix => rw [← PS.cur_lit_mapTok m, ← PS.next_mapTok]; exact .infix_postfix (by side)
  case exprList_empty => exact .exprList_empty (by side)
  case exprList => exact .exprList (by side) ‹_› ‹_› (by side)
  case exprList_err => exact .exprList_err ‹_› (by side) ‹_› ‹_› (by side)
  case exprListLoop_stop => exact .exprListLoop_stop (by side)
  case exprListLoop_step => exact .exprListLoop_step (by side) ‹_› ‹_›
  case objLit_empty => exact .objLit_empty (by side)
  case objLit_errColon => exact .objLit_errColon (by side) ‹_›
  case objLit_errClose => exact .objLit_errClose ‹_› (by side) ‹_› (by side)
  case objLit => exact .objLit (by side) ‹_› (by side)
  case objLoop_err => exact .objLoop_err ‹_› ‹_› (by side)
  case objLoop_last => exact .objLoop_last ‹_› (by side) ‹_› (by side)
  case objLoop_step => exact .objLoop_step ‹_› (by side) ‹_› (by side) ‹_›
  case funcE_named => exact .funcE_named (by side) ‹_›
  case funcE_anon => exact .funcE_anon (by side) ‹_›
  case funcTail_errParen => exact .funcTail_errParen ‹_› (by side)
  case funcTail_errBrace => exact .funcTail_errBrace ‹_› (by side) ‹_› (by side)
  case funcTail => exact .funcTail (by side) ‹_› (by side) ‹_›
  case paramsLoop_stop => exact .paramsLoop_stop (by side)
  case paramsLoop_step => exact .paramsLoop_step (by side) ‹_›
  case params_empty => exact .params_empty (by side)
  case params => exact .params (by side) ‹_› (by side)
  case params_err => exact .params_err ‹_› (by side) ‹_› (by side)

/-- the parse of the mapped token list is the mapped parse -/
theorem parseProgram_mapTok (toks : List Token) (r : ParseResult) (h : parseProgram cfg toks = some r) :
    parseProgram cfg (toks.map m.tok) =
      some { prog := r.prog.mapTok m.tok, errors := r.errors.map m.err, hasErr := r.hasErr,
             final := r.final.mapTok m } := by
  unfold parseProgram at h ⊢
  obtain ⟨⟨stmts, st⟩, h1, h2⟩ := bind_some h
  cases h2
  rw [show PS.init (toks.map m.tok) = (PS.init toks).mapTok m from rfl,
    show programLoop cfg .nil _ = _ from ((Parse.of_run (c := .programLoop .nil) h1).mapTok m trivial).run]
  simp [Kind.mapTok, PS.mapTok]

end Xjs
