import XjsModel.Proofs.ParserPlain
/-
  The transparency pass (C04): a simulation. Every path of the intercepted parser is, after erasing trace and
  `currentExpressionPrecedence`, the same path of the interceptor-free parser; the paths through an interceptor
  collapse, since an interceptor changes nothing else.
-/
namespace Xjs

/-- what the pass shows for a parse function `f` (at the interceptor-free configuration) and a run of the
    intercepted function from `st` with result `r` -/
def PlainM {α : Type} (f : PS → Option (α × PS)) (st : PS) (r : α × PS) : Prop :=
  r.2.curPrec = st.curPrec ∧ f st.strip = some (r.1, r.2.strip)

/-- the same call without interceptors -/
def Call.plain : Call k → Call k
  | .stmtI _ => .stmtI []
  | .exprI _ prec => .exprI [] prec
  | c => c

theorem stmtCall_plain (t : TokType) : (stmtCall t).plain = stmtCall t := by
  unfold stmtCall; split <;> rfl

theorem Parse.cast {cfg : PCfg} {E : Prop} {k : Kind} {c : Call k} {st : PS} {x y : k.type} {s s' : PS}
    (h : Parse cfg E c st x s) (hx : x = y) (hs : s = s') : Parse cfg E c st y s' :=
  hx ▸ hs ▸ h

/-- a premise of a constructor of `Parse cfg.plain` at stripped states — the premise at the states themselves or the
    induction hypothesis, after moving `strip` outwards; and the equations `Parse.cast` asks for -/
macro "stripped" : tactic => `(tactic|
  ((try simp only [strip_expectToken, strip_expectSemi, strip_next, strip_push, strip_pop, strip_addError, strip_cur,
      strip_identOfCur]) <;> assumption))

theorem Parse.plain {cfg : PCfg} {E : Prop} {k : Kind} {c : Call k} {st : PS} {x : k.type} {st' : PS}
    (h : Parse cfg E c st x st') : Parse cfg.plain E c.plain st.strip x st'.strip := by
  induction h
  -- an interceptor only adds to the trace and brackets `curPrec`
  case stmtI_cons ih => exact ih
  case exprI_observe ih => exact ih
  case exprI_reenter p _ ih1 ih2 =>
    rw [(p.steps _ (.refl _)).curPrec_eq] at ih2
    exact .exprI_nil ih1 ih2
  case base ih => exact .base (stmtCall_plain _ ▸ ih)
  -- every other path is the same path, up to moving `strip` in its result and final state
  all_goals apply Parse.cast
  case stmtI_nil => apply Parse.stmtI_nil <;> stripped
  case endStmt => apply Parse.endStmt <;> stripped
  case endStmt_err => apply Parse.endStmt_err <;> stripped
  case exprS => apply Parse.exprS <;> stripped
  case letS_err => apply Parse.letS_err <;> stripped
  case letS_init => apply Parse.letS_init <;> stripped
  case letS_bare => apply Parse.letS_bare <;> stripped
  case letE_err => apply Parse.letE_err <;> stripped
  case letE_init => apply Parse.letE_init <;> stripped
  case letE_bare => apply Parse.letE_bare <;> stripped
  case funcS_errName => apply Parse.funcS_errName <;> stripped
  case funcS_errParen => apply Parse.funcS_errParen <;> stripped
  case funcS_errBrace => apply Parse.funcS_errBrace <;> stripped
  case funcS => apply Parse.funcS <;> stripped
  case ret_value => apply Parse.ret_value <;> stripped
  case ret_bare => apply Parse.ret_bare <;> stripped
  case ifS_errParen => apply Parse.ifS_errParen <;> stripped
  case ifS_errClose => apply Parse.ifS_errClose <;> stripped
  case ifS_else => apply Parse.ifS_else <;> stripped
  case ifS_bare => apply Parse.ifS_bare <;> stripped
  case whileS_errParen => apply Parse.whileS_errParen <;> stripped
  case whileS_errClose => apply Parse.whileS_errClose <;> stripped
  case whileS => apply Parse.whileS <;> stripped
  case forInit_let => apply Parse.forInit_let <;> stripped
  case forInit_expr => apply Parse.forInit_expr <;> stripped
  case forInit_none => apply Parse.forInit_none <;> stripped
  case optExpr_some => apply Parse.optExpr_some <;> stripped
  case optExpr_none => apply Parse.optExpr_none <;> stripped
  case forS_errParen => apply Parse.forS_errParen <;> stripped
  case forS_errSemi1 => apply Parse.forS_errSemi1 <;> stripped
  case forS_errSemi2 => apply Parse.forS_errSemi2 <;> stripped
  case forS_errClose => apply Parse.forS_errClose <;> stripped
  case forS => apply Parse.forS <;> stripped
  case blockLoop_stop => apply Parse.blockLoop_stop <;> stripped
  case blockLoop_step => apply Parse.blockLoop_step <;> stripped
  case block => apply Parse.block <;> stripped
  case block_unclosed => apply Parse.block_unclosed <;> stripped
  case programLoop_stop => apply Parse.programLoop_stop <;> stripped
  case programLoop_step => apply Parse.programLoop_step <;> stripped
  case exprI_nil => apply Parse.exprI_nil <;> stripped
  case remaining_stop => apply Parse.remaining_stop <;> stripped
  case remaining_step => apply Parse.remaining_step <;> stripped
  case prefix_err => apply Parse.prefix_err <;> stripped
  case prefix_ident => apply Parse.prefix_ident <;> stripped
  case prefix_int => apply Parse.prefix_int <;> stripped
  case prefix_intErr => apply Parse.prefix_intErr <;> stripped
  case prefix_float => apply Parse.prefix_float <;> stripped
  case prefix_floatErr => apply Parse.prefix_floatErr <;> stripped
  case prefix_string => apply Parse.prefix_string <;> stripped
  case prefix_raw => apply Parse.prefix_raw <;> stripped
  case prefix_bool => apply Parse.prefix_bool <;> stripped
  case prefix_null => apply Parse.prefix_null <;> stripped
  case prefix_unary => apply Parse.prefix_unary <;> stripped
  case prefix_group => apply Parse.prefix_group <;> stripped
  case prefix_groupErr => apply Parse.prefix_groupErr <;> stripped
  case prefix_array => apply Parse.prefix_array <;> stripped
  case prefix_object => apply Parse.prefix_object <;> stripped
  case prefix_func => apply Parse.prefix_func <;> stripped
  case infix_none => apply Parse.infix_none <;> stripped
  case infix_binary => apply Parse.infix_binary <;> stripped
  case infix_assign => apply Parse.infix_assign <;> stripped
  case infix_compound => apply Parse.infix_compound <;> stripped
  case infix_call => apply Parse.infix_call <;> stripped
  case infix_member => apply Parse.infix_member <;> stripped
  case infix_index => apply Parse.infix_index <;> stripped
  case infix_indexErr => apply Parse.infix_indexErr <;> stripped
  case infix_postfix => apply Parse.infix_postfix <;> stripped
  case exprList_empty => apply Parse.exprList_empty <;> stripped
  case exprList => apply Parse.exprList <;> stripped
  case exprList_err => apply Parse.exprList_err <;> stripped
  case exprListLoop_stop => apply Parse.exprListLoop_stop <;> stripped
  case exprListLoop_step => apply Parse.exprListLoop_step <;> stripped
  case objLit_empty => apply Parse.objLit_empty <;> stripped
  case objLit_errColon => apply Parse.objLit_errColon <;> stripped
  case objLit_errClose => apply Parse.objLit_errClose <;> stripped
  case objLit => apply Parse.objLit <;> stripped
  case objLoop_err => apply Parse.objLoop_err <;> stripped
  case objLoop_last => apply Parse.objLoop_last <;> stripped
  case objLoop_step => apply Parse.objLoop_step <;> stripped
  case funcE_named => apply Parse.funcE_named <;> stripped
  case funcE_anon => apply Parse.funcE_anon <;> stripped
  case funcTail_errParen => apply Parse.funcTail_errParen <;> stripped
  case funcTail_errBrace => apply Parse.funcTail_errBrace <;> stripped
  case funcTail => apply Parse.funcTail <;> stripped
  case paramsLoop_stop => apply Parse.paramsLoop_stop <;> stripped
  case paramsLoop_step => apply Parse.paramsLoop_step <;> stripped
  case params_empty => apply Parse.params_empty <;> stripped
  case params => apply Parse.params <;> stripped
  case params_err => apply Parse.params_err <;> stripped
  all_goals stripped

theorem plain_run {cfg : PCfg} {k : Kind} {c : Call k} {st : PS} {r : k.type × PS} (h : c.run cfg st = some r) :
    PlainM (c.plain.run cfg.plain) st r :=
  ⟨(steps_of_run h).curPrec_eq, (Parse.of_run h).plain.run⟩

theorem plain_mutual (cfg : PCfg) :
    (∀ is st r, parseStatementI cfg is st = some r → PlainM (parseStatementI cfg.plain []) st r) ∧
    (∀ st r, baseParseStatement cfg st = some r → PlainM (baseParseStatement cfg.plain) st r) ∧
    (∀ st r, parseExpressionStatement cfg st = some r → PlainM (parseExpressionStatement cfg.plain) st r) ∧
    (∀ is prec st r, parseExpressionI cfg is prec st = some r → PlainM (parseExpressionI cfg.plain [] prec) st r) ∧
    (∀ left prec st r, parseRemaining cfg left prec st = some r → PlainM (parseRemaining cfg.plain left prec) st r) ∧
    (∀ left st r, parseInfixExpression cfg left st = some r → PlainM (parseInfixExpression cfg.plain left) st r) ∧
    (∀ endTy st r, parseExpressionList cfg endTy st = some r → PlainM (parseExpressionList cfg.plain endTy) st r) ∧
    (∀ acc st r, exprListLoop cfg acc st = some r → PlainM (exprListLoop cfg.plain acc) st r) ∧
    (∀ st r, parsePrefixExpression cfg st = some r → PlainM (parsePrefixExpression cfg.plain) st r) ∧
    (∀ st r, parseFunctionExpression cfg st = some r → PlainM (parseFunctionExpression cfg.plain) st r) ∧
    (∀ st r, parseBlockStatement cfg st = some r → PlainM (parseBlockStatement cfg.plain) st r) ∧
    (∀ acc st r, blockLoop cfg acc st = some r → PlainM (blockLoop cfg.plain acc) st r) ∧
    (∀ st r, parseObjectLiteral cfg st = some r → PlainM (parseObjectLiteral cfg.plain) st r) ∧
    (∀ acc st r, objectLoop cfg acc st = some r → PlainM (objectLoop cfg.plain acc) st r) ∧
    (∀ st r, parseForStatement cfg st = some r → PlainM (parseForStatement cfg.plain) st r) ∧
    (∀ st r, parseForInit cfg st = some r → PlainM (parseForInit cfg.plain) st r) ∧
    (∀ st r, parseLetExpression cfg st = some r → PlainM (parseLetExpression cfg.plain) st r) ∧
    (∀ st r, parseWhileStatement cfg st = some r → PlainM (parseWhileStatement cfg.plain) st r) ∧
    (∀ st r, parseIfStatement cfg st = some r → PlainM (parseIfStatement cfg.plain) st r) ∧
    (∀ st r, parseReturnStatement cfg st = some r → PlainM (parseReturnStatement cfg.plain) st r) ∧
    (∀ st r, parseFunctionStatement cfg st = some r → PlainM (parseFunctionStatement cfg.plain) st r) ∧
    (∀ st r, parseLetStatement cfg st = some r → PlainM (parseLetStatement cfg.plain) st r) :=
  Parse.run_mutual (M := fun c st r => PlainM (c.plain.run cfg.plain) st r) fun _ _ _ h => plain_run h

end Xjs
