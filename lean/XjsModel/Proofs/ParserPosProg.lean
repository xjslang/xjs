import XjsModel.Proofs.ParserPos
/-
  Position erasure, program level: parsing the position-free token list gives the position-free result.
-/
namespace Xjs.Pos
open Xjs

variable {cfg : PCfg}

/-- PARSING COMMUTES WITH ERASING POSITIONS: the parse of the position-free token list is the position-free parse -/
theorem pos_parseProgram (toks : List Token) (r : ParseResult) (h : parseProgram cfg toks = some r) :
    parseProgram cfg (toks.map tokZ) =
      some { prog := stmtListZ r.prog, errors := r.errors.map errZ, hasErr := r.hasErr, final := psZ r.final } := by
  simpa [psZ_eq cfg, stmtListZ_eq, posMap] using parseProgram_mapTok (posMap cfg) toks r h

end Xjs.Pos
