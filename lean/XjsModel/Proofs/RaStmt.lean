import XjsModel.Proofs.RaCases
/-
  Round trip, statements: the invariants, the statement loops of blocks and programs, one lemma per statement kind,
  and the expression kinds that contain statements or properties (function and object literals).
-/
namespace Xjs.RA
open Xjs

variable {cfg : PCfg} {tol sm : Bool}

def _root_.Xjs.StmtList.app : StmtList → StmtList → StmtList
  | .nil, b => b
  | .cons e t, b => .cons e (t.app b)

theorem StmtList.snoc_app : ∀ (a : StmtList) (e : Stmt) (b : StmtList), (a.snoc e).app b = a.app (.cons e b)
  | .nil, _, _ => rfl
  | .cons x t, e, b => by simp [StmtList.snoc, StmtList.app, StmtList.snoc_app t e b]

theorem StmtList.app_nil : ∀ (a : StmtList), a.app .nil = a
  | .nil => rfl
  | .cons x t => by simp [StmtList.app, StmtList.app_nil t]

def _root_.Xjs.PropList.app : PropList → PropList → PropList
  | .nil, b => b
  | .cons k v t, b => .cons k v (t.app b)

theorem PropList.snoc_app : ∀ (a : PropList) (k v : Expr) (b : PropList), (a.snoc k v).app b = a.app (.cons k v b)
  | .nil, _, _, _ => rfl
  | .cons x y t, k, v, b => by simp [PropList.snoc, PropList.app, PropList.snoc_app t k v b]

theorem PropList.app_nil : ∀ (a : PropList), a.app .nil = a
  | .nil => rfl
  | .cons x y t => by simp [PropList.app, PropList.app_nil t]

theorem tree_not_none (s : SS) : s.tree.isNone = false := by cases s <;> rfl

/-- the statement-level invariant: a statement's tokens, followed by a token that may follow it (`followOk`: no `else`
    behind an open `if`; behind an expression that no `;` closes, a token at which a semicolon is inserted and that cannot
    continue the expression), parse back to the statement; the cursor stops on its last token -/
def StmtMain (cfg : PCfg) (tol sm : Bool) (s : SS) : Prop :=
  ∀ (st : PS) (rest : List Token), rest ≠ [] → st.toks = s.toks ++ rest → followOk tol sm s (rest.headD semiT) = true →
    parseStatementI cfg cfg.stmtI st = some (s.tree, nextK (s.toks.length - 1) st)

/-- the statement loop of a block: up to a closing brace or the end of input -/
def BlockInv (cfg : PCfg) (ss : SSList) (closer : Token) : Prop :=
  ∀ (acc : StmtList) (st : PS) (rest : List Token), (closer.type = .rbrace ∨ closer.type = .eof) →
    st.toks = ss.toks ++ closer :: rest →
    blockLoop cfg acc st = some (acc.app ss.tree, nextK ss.toks.length st)

theorem stmt_toks_ne_nil (s : SS) : s.toks ≠ [] := by
  cases s <;> simp [SS.toks] <;> exact fun h => absurd h (toks_ne_nil _)

theorem stmt_toks_len_pos (s : SS) : 0 < s.toks.length := List.length_pos_iff.mpr (stmt_toks_ne_nil s)

/-- a statement starts with a token that is neither `}` nor end-of-input nor `else` -/
theorem head_stmt (s : SS) (hw : s.wf = true) :
    ∃ t ts, s.toks = t :: ts ∧ t.type ≠ .rbrace ∧ t.type ≠ .eof ∧ t.type ≠ .else_ := by
  cases s with
  | exprS e semi =>
    simp only [SS.wf, Bool.and_eq_true] at hw
    obtain ⟨t, ts, h1, h2⟩ := head_prefix e hw.1.1
    exact ⟨t, ts ++ semiToks semi, by simp [SS.toks, h1], prefix_ne h2 (by decide), prefix_ne h2 (by decide), prefix_ne h2 (by decide)⟩
  | block body => exact ⟨lbrT, _, rfl, by decide⟩
  -- the other kinds start with their keyword, whose type `wf` fixes
  | _ => simp_all [SS.wf, SS.toks]

/-! ### statement loops -/

/-- the statement loops of `ParseBlockStatement` and `ParseProgram`: one statement per round, as long as `go` holds of
    the token under the cursor; every token that can start a statement keeps them going -/
structure StmtLoop (cfg : PCfg) (loop : StmtList → PS → Option (StmtList × PS)) (go : TokType → Bool) : Prop where
  stop : ∀ acc st, go st.cur.type = false → loop acc st = some (acc, st)
  step : ∀ acc st r, go st.cur.type = true → parseStatementI cfg cfg.stmtI st = some r →
    loop acc st = loop (if r.1.isNone then acc else acc.snoc r.1) r.2.next
  heads : ∀ ty, ty ≠ .rbrace → ty ≠ .eof → go ty = true

theorem blockLoop_loop : StmtLoop cfg (blockLoop cfg) (fun ty => ty != .rbrace && ty != .eof) where
  stop acc st h := by rw [blockLoop]; simp only [h, Bool.false_eq_true, if_false]
  step acc st r h hr := by rw [blockLoop]; simp only [h, if_true, hr, Option.bind_eq_bind, Option.bind_some]
  heads ty h1 h2 := by simp [h1, h2]

theorem programLoop_loop : StmtLoop cfg (programLoop cfg) (fun ty => ty != .eof) where
  stop acc st h := by rw [programLoop]; simp only [h, Bool.false_eq_true, if_false]
  step acc st r h hr := by rw [programLoop]; simp only [h, if_true, hr, Option.bind_eq_bind, Option.bind_some]
  heads ty _ h2 := by simp [h2]

/-- what a statement loop does on the tokens of `ss` followed by `tail` -/
def LoopAt (loop : StmtList → PS → Option (StmtList × PS)) (ss : SSList) (tail : List Token) : Prop :=
  ∀ (acc : StmtList) (st : PS), st.toks = ss.toks ++ tail →
    loop acc st = some (acc.app ss.tree, nextK ss.toks.length st)

variable {loop : StmtList → PS → Option (StmtList × PS)} {go : TokType → Bool}

theorem loopAt_nil (hl : StmtLoop cfg loop go) (c : Token) (rest : List Token) (hc : go c.type = false) :
    LoopAt loop .nil (c :: rest) := by
  intro acc st ht
  rw [hl.stop acc st (by rw [cur_of_toks ht]; exact hc)]
  simp [SSList.tree, SSList.toks, nextK, StmtList.app_nil]

theorem loopAt_cons (hl : StmtLoop cfg loop go) (s : SS) (ss : SSList) (c : Token) (rest : List Token) (hw : s.wf = true)
    (hfo : followOk tol sm s ((ss.toks ++ [c]).headD c) = true)
    (ihs : StmtMain cfg tol sm s) (ihl : LoopAt loop ss (c :: rest)) : LoopAt loop (.cons s ss) (c :: rest) := by
  intro acc st ht
  obtain ⟨t, ts, h1, h2, h3, _⟩ := head_stmt s hw
  have ht' : st.toks = s.toks ++ (ss.toks ++ c :: rest) := by rw [ht]; simp [SSList.toks]
  have hcur : st.cur = t := by rw [h1] at ht'; exact cur_of_toks ht'
  have hfo' : followOk tol sm s ((ss.toks ++ c :: rest).headD semiT) = true := by
    cases hs : ss.toks <;> simp only [hs, List.nil_append, List.cons_append, List.headD_cons] at hfo ⊢ <;> exact hfo
  rw [hl.step acc st _ (by rw [hcur]; exact hl.heads _ h2 h3) (ihs st _ (by simp) ht' hfo')]
  simp only [tree_not_none, Bool.false_eq_true, if_false]
  have := stmt_toks_len_pos s
  rw [show (nextK (s.toks.length - 1) st).next = nextK s.toks.length st by
    simp only [next_eq, nextK_nextK]; congr 1; omega]
  rw [ihl _ _ (toks_at s.toks _ st ht' (by simp)), StmtList.snoc_app]
  congr 2
  simp only [SSList.toks, List.length_append, nextK_nextK]

theorem block_nil (closer : Token) : BlockInv cfg .nil closer := fun acc st rest hcl ht =>
  loopAt_nil blockLoop_loop closer rest (by rcases hcl with h | h <;> simp [h]) acc st ht

theorem block_cons (s : SS) (ss : SSList) (closer : Token) (hw : s.wf = true)
    (hfo : followOk tol sm s ((ss.toks ++ [closer]).headD closer) = true)
    (ihs : StmtMain cfg tol sm s) (ihl : BlockInv cfg ss closer) : BlockInv cfg (.cons s ss) closer := fun acc st rest hcl ht =>
  loopAt_cons blockLoop_loop s ss closer rest hw hfo ihs (fun acc st ht => ihl acc st rest hcl ht) acc st ht

/-- `ParseBlockStatement` from the `{` to the `}` -/
theorem block_rt (body : SSList) (ih : BlockInv cfg body rbrT) (st : PS) (rest : List Token)
    (ht : st.toks = lbrT :: (body.toks ++ rbrT :: rest)) :
    parseBlockStatement cfg st = some (.block lbrT body.tree rbrT, nextK (body.toks.length + 1) st) := by
  have hn : ((st.push .block).next).toks = body.toks ++ rbrT :: rest := by
    rw [next_push]; exact next_toks ht (by simp)
  have hc2 : (nextK body.toks.length ((st.push .block).next)).cur = rbrT := cur_at body.toks hn
  rw [parseBlockStatement, ih .nil _ rest (Or.inl rfl) hn]
  simp only [Option.bind_eq_bind, Option.bind_some]
  have hne : ((nextK body.toks.length ((st.push .block).next)).cur.type != TokType.rbrace && !cfg.tolerant) = false := by
    rw [hc2]; rfl
  simp only [hne, Bool.false_eq_true, if_false]
  rw [hc2, cur_of_toks ht]
  simp only [StmtList.app]
  congr 2
  rw [next_push, nextK_push, pop_push]
  simp only [next_eq, nextK_nextK, Nat.add_comm]

/-! ### `ParseStatement` dispatches on the token under the cursor -/

theorem base_default (hc : BaseCfg cfg) {st : PS} {t : Token} {ts : List Token} (ht : st.toks = t :: ts)
    (hp : (lookup basePrefixFns t.type).isSome = true) (h1 : t.type ≠ .function) (h2 : t.type ≠ .lbrace) :
    parseStatementI cfg cfg.stmtI st = parseExpressionStatement cfg st := by
  rw [stmtI_nil hc, baseParseStatement.eq_def, cur_of_toks ht]
  split <;> first | rfl | (rename_i h; rw [h] at hp; exact absurd hp (by decide)) | (rename_i h; exact absurd h ‹_›)

section
variable (hc : BaseCfg cfg) {st : PS} {t : Token} {ts : List Token} (ht : st.toks = t :: ts)
include hc ht
theorem base_let (h : t.type = .let_) : parseStatementI cfg cfg.stmtI st = parseLetStatement cfg st := by
  rw [stmtI_nil hc, baseParseStatement.eq_def, cur_of_toks ht, h]
theorem base_function (h : t.type = .function) : parseStatementI cfg cfg.stmtI st = parseFunctionStatement cfg st := by
  rw [stmtI_nil hc, baseParseStatement.eq_def, cur_of_toks ht, h]
theorem base_return (h : t.type = .return_) : parseStatementI cfg cfg.stmtI st = parseReturnStatement cfg st := by
  rw [stmtI_nil hc, baseParseStatement.eq_def, cur_of_toks ht, h]
theorem base_if (h : t.type = .if_) : parseStatementI cfg cfg.stmtI st = parseIfStatement cfg st := by
  rw [stmtI_nil hc, baseParseStatement.eq_def, cur_of_toks ht, h]
theorem base_while (h : t.type = .while_) : parseStatementI cfg cfg.stmtI st = parseWhileStatement cfg st := by
  rw [stmtI_nil hc, baseParseStatement.eq_def, cur_of_toks ht, h]
theorem base_for (h : t.type = .for_) : parseStatementI cfg cfg.stmtI st = parseForStatement cfg st := by
  rw [stmtI_nil hc, baseParseStatement.eq_def, cur_of_toks ht, h]
theorem base_block (h : t.type = .lbrace) : parseStatementI cfg cfg.stmtI st = parseBlockStatement cfg st := by
  rw [stmtI_nil hc, baseParseStatement.eq_def, cur_of_toks ht, h]
end

/-- an identifier behind the token under the cursor (`let x`, `function f`) -/
theorem expect_ident {S : PS} {t name : Token} {X : List Token} (hname : name.type = .ident) (ht : S.toks = t :: name :: X) :
    expectToken .ident S = (true, S.next) :=
  expect_ok (by rw [peek_of_toks ht]; exact hname)

theorem stopsB_stops (hc : BaseCfg cfg) (hsm : sm = true → cfg.smart = true) (f : Token) (rest : List Token)
    (h : stopsB sm f = true) (q : Nat) (hq : 1 ≤ q) : stops cfg q (f :: rest) := by
  unfold stopsB at h
  simp only [Bool.or_eq_true, decide_eq_true_eq, Bool.and_eq_true, beq_iff_eq] at h
  rcases h with (h | h) | h
  · exact stops_prec (by rw [precOf_base hc]; exact Nat.le_trans h hq)
  · exact Or.inr (Or.inr (Or.inl h))
  · exact Or.inr (Or.inr (Or.inr ⟨hsm h.1.1, h.1.2, h.2⟩))

/-- `ExpectSemicolonASI` in front of a token at which a semicolon is inserted: nothing is consumed -/
theorem asi_ok (htol : tol = true → cfg.tolerant = true) {st : PS} {f : Token} (hp : st.peek = f) (h : asiOk tol f = true) :
    expectSemiASI cfg st = (true, st) := by
  unfold asiOk at h
  simp only [Bool.and_eq_true, bne_iff_ne, ne_eq, Bool.or_eq_true, beq_iff_eq] at h
  obtain ⟨hs, h⟩ := h
  unfold expectSemiASI shouldInsertSemicolon
  have h0 : (st.peek.type == TokType.semicolon) = false := by rw [hp]; simpa using hs
  simp only [h0, Bool.false_eq_true, if_false]
  by_cases he : st.peek.type = .eof
  · simp [he]
  · by_cases hb : st.peek.type = .rbrace
    · simp [hb]
    · have he' : (st.peek.type == TokType.eof) = false := by simpa using he
      have hb' : (st.peek.type == TokType.rbrace) = false := by simpa using hb
      simp only [he', hb', Bool.false_eq_true, if_false]
      rw [hp] at he hb ⊢
      rcases h with ((h | h) | h) | h
      · exact absurd h he
      · exact absurd h hb
      · have : (asiContinuation.contains f.type) = false := by
          unfold asiContinuation; simpa using h.2
        have hmem : ¬ f.type ∈ asiContinuation := by simpa using this
        simp [h.1, hmem]
      · simp [htol h]

/-- what `followOk` says of a statement that ends with an expression -/
theorem follow_open {s : SS} {semi : Bool} {f : Token} (ho : s.openIf = false) (hs : s.open = !semi)
    (h : followOk tol sm s f = true) : semi = false → asiOk tol f = true ∧ stopsB sm f = true := by
  intro hsemi
  simpa [followOk, ho, hs, hsemi] using h

/-- the end of a statement whose last part is the expression `e`: closed by `;`, or followed by a token at which a
    semicolon is inserted and which cannot continue the expression -/
theorem expr_end (hc : BaseCfg cfg) (htol : tol = true → cfg.tolerant = true) (hsm : sm = true → cfg.smart = true) (e : SE) (hw : e.wf = true) (ih : Main cfg e)
    (semi : Bool) (st : PS) (rest : List Token) (hr : rest ≠ []) (ht : st.toks = e.toks ++ (semiToks semi ++ rest))
    (hf : semi = false → asiOk tol (rest.headD semiT) = true ∧ stopsB sm (rest.headD semiT) = true) :
    parseExpressionI cfg cfg.exprI LOWEST st = some (e.tree, nextK (e.toks.length - 1) st) ∧
    expectSemiASI cfg (nextK (e.toks.length - 1) st) = (true, nextK ((e.toks ++ semiToks semi).length - 1) st) := by
  obtain ⟨r0, rs, rfl⟩ := List.exists_cons_of_ne_nil hr
  cases semi with
  | true =>
    have ht' : st.toks = e.toks ++ semiT :: r0 :: rs := ht
    refine ⟨eval_lowest hc e hw ih st _ ht' (Or.inl rfl), ?_⟩
    rw [semi_ok (by rw [peek_after (toks_ne_nil e) ht']; rfl)]
    congr 1
    have := toks_len_pos e
    simp only [next_eq, nextK_nextK, semiToks, if_true, List.length_append, List.length_cons, List.length_nil]
    exact nextK_congr (by omega) _
  | false =>
    have ht' : st.toks = e.toks ++ r0 :: rs := ht
    obtain ⟨h1, h2⟩ := hf rfl
    refine ⟨eval_lowest hc e hw ih st _ ht' (stopsB_stops hc hsm r0 rs h2 _ (Nat.le_refl _)), ?_⟩
    rw [asi_ok htol (peek_after (toks_ne_nil e) ht') h1]
    simp [semiToks]

theorem case_exprS (hc : BaseCfg cfg) (htol : tol = true → cfg.tolerant = true) (hsm : sm = true → cfg.smart = true) (e : SE) (semi : Bool)
    (hw : (SS.exprS e semi).wf = true) (ih : Main cfg e) : StmtMain cfg tol sm (.exprS e semi) := by
  intro st rest hr ht hfo
  simp only [SS.wf, Bool.and_eq_true, bne_iff_ne, ne_eq] at hw
  obtain ⟨⟨hwe, hlb⟩, hfn⟩ := hw
  obtain ⟨t, ts, h1, h2⟩ := head_prefix e hwe
  have ht' : st.toks = e.toks ++ (semiToks semi ++ rest) := by rw [ht]; simp [SS.toks]
  have ht1 : st.toks = t :: (ts ++ (semiToks semi ++ rest)) := by rw [ht', h1]; rfl
  rw [h1] at hlb hfn
  obtain ⟨e1, e2⟩ := expr_end hc htol hsm e hwe ih semi st rest hr ht' (follow_open rfl rfl hfo)
  rw [base_default hc ht1 h2 hfn hlb,
    parseExpressionStatement, e1]
  simp only [Option.bind_eq_bind, Option.bind_some, e2, Bool.not_true, Bool.false_eq_true, if_false]
  rfl

theorem case_letS (hc : BaseCfg cfg) (htol : tol = true → cfg.tolerant = true) (hsm : sm = true → cfg.smart = true) (t name : Token) (v : SE) (semi : Bool)
    (hw : (SS.letS t name v semi).wf = true) (ih : Main cfg v) : StmtMain cfg tol sm (.letS t name v semi) := by
  intro st rest hr ht hfo
  simp only [SS.wf, Bool.and_eq_true, beq_iff_eq, isIdentTok] at hw
  obtain ⟨⟨hty, hname⟩, hwv⟩ := hw
  have ht0 : st.toks = t :: name :: assignT :: (v.toks ++ (semiToks semi ++ rest)) := by rw [ht]; simp [SS.toks]
  have h1 := next_toks_cons ht0
  have h3 : st.next.next.next.toks = v.toks ++ (semiToks semi ++ rest) :=
    toks_at [t, name, assignT] _ st ht0 (by simp [toks_ne_nil])
  obtain ⟨e1, e2⟩ := expr_end hc htol hsm v hwv ih semi _ rest hr h3 (follow_open rfl rfl hfo)
  rw [base_let hc ht0 hty, parseLetStatement,
    expect_ident hname ht0]
  have hpk : (st.next.peek.type == TokType.assign) = true := by rw [peek_of_toks h1]; rfl
  simp only [Bool.not_true, Bool.false_eq_true, if_false, hpk, if_true, e1, Option.bind_eq_bind, Option.bind_some, e2,
    cur_of_toks ht0, identOfCur_of_toks h1]
  congr 2
  have := toks_len_pos v
  simp only [next_eq, nextK_nextK, SS.toks, List.length_append, List.length_cons]
  exact nextK_congr (by omega) _

theorem case_letN (hc : BaseCfg cfg) (t name : Token) (hw : (SS.letN t name).wf = true) : StmtMain cfg tol sm (.letN t name) := by
  intro st rest _ ht _
  simp only [SS.wf, Bool.and_eq_true, beq_iff_eq, isIdentTok] at hw
  have ht0 : st.toks = t :: name :: semiT :: rest := ht
  have h1 := next_toks_cons ht0
  rw [base_let hc ht0 hw.1, parseLetStatement,
    expect_ident hw.2 ht0]
  have hpk : (st.next.peek.type == TokType.assign) = false := by rw [peek_of_toks h1]; rfl
  simp only [Bool.not_true, Bool.false_eq_true, if_false, hpk]
  rw [semi_ok (by rw [peek_of_toks h1]; rfl)]
  simp only [Bool.not_true, Bool.false_eq_true, if_false, cur_of_toks ht0, identOfCur_of_toks h1]
  rfl

theorem case_ret (hc : BaseCfg cfg) (htol : tol = true → cfg.tolerant = true) (hsm : sm = true → cfg.smart = true) (t : Token) (v : SE) (semi : Bool)
    (hw : (SS.ret t v semi).wf = true) (ih : Main cfg v) : StmtMain cfg tol sm (.ret t v semi) := by
  intro st rest hr ht hfo
  simp only [SS.wf, Bool.and_eq_true, beq_iff_eq, Bool.not_eq_true'] at hw
  obtain ⟨⟨hty, hwv⟩, hnl⟩ := hw
  obtain ⟨a, as, has, hpre⟩ := head_prefix v hwv
  have ht0 : st.toks = t :: (v.toks ++ (semiToks semi ++ rest)) := by rw [ht]; simp [SS.toks]
  have h1 : st.next.toks = v.toks ++ (semiToks semi ++ rest) := next_toks ht0 (by simp [toks_ne_nil])
  obtain ⟨e1, e2⟩ := expr_end hc htol hsm v hwv ih semi _ rest hr h1 (follow_open rfl rfl hfo)
  -- the value starts on the line of the `return`
  have hgo : (st.peek.type != TokType.semicolon && st.peek.type != TokType.eof && st.peek.type != TokType.rbrace && !st.peek.nl) = true := by
    rw [has] at ht0 hnl
    rw [peek_of_toks ht0]
    simp [prefix_ne hpre (x := .semicolon) (by decide), prefix_ne hpre (x := .eof) (by decide),
      prefix_ne hpre (x := .rbrace) (by decide), show a.nl = false from hnl]
  rw [base_return hc ht0 hty, parseReturnStatement]
  simp only [hgo, if_true, e1, Option.bind_eq_bind, Option.bind_some, e2, Bool.not_true, Bool.false_eq_true, if_false, cur_of_toks ht0]
  congr 2
  have := toks_len_pos v
  simp only [next_eq, nextK_nextK, SS.toks, List.length_append, List.length_cons]
  exact nextK_congr (by omega) _

theorem case_retN (hc : BaseCfg cfg) (t : Token) (hw : (SS.retN t).wf = true) : StmtMain cfg tol sm (.retN t) := by
  intro st rest _ ht _
  simp only [SS.wf, beq_iff_eq] at hw
  have ht0 : st.toks = t :: semiT :: rest := ht
  have hgo : (st.peek.type != TokType.semicolon && st.peek.type != TokType.eof && st.peek.type != TokType.rbrace && !st.peek.nl) = false := by
    rw [peek_of_toks ht0]; rfl
  rw [base_return hc ht0 hw, parseReturnStatement]
  simp only [hgo, Bool.false_eq_true, if_false]
  rw [semi_ok (by rw [peek_of_toks ht0]; rfl)]
  simp only [Bool.not_true, Bool.false_eq_true, if_false, cur_of_toks ht0]
  rfl

/-! ### `if`, `while` -/

theorem follow_ifS {t : Token} {c : SE} {thn : SS} {f : Token} (h : followOk tol sm (.ifS t c thn) f = true) :
    followOk tol sm thn f = true ∧ f.type ≠ .else_ := by
  unfold followOk at h ⊢
  simp only [SS.openIf, SS.open, Bool.not_true, Bool.false_or, Bool.and_eq_true, bne_iff_ne, ne_eq] at h
  refine ⟨?_, h.1⟩
  simp only [Bool.and_eq_true, Bool.or_eq_true, bne_iff_ne, ne_eq]
  exact ⟨Or.inr h.1, by simpa using h.2⟩

/-- the common part `kw ( cond ) body` of `if` and `while`; `st` stands on the keyword, and the body is followed by `rest` -/
theorem cond_body (hc : BaseCfg cfg) (c : SE) (hwc : c.wf = true) (ihc : Main cfg c) (body : SS) (ihb : StmtMain cfg tol sm body)
    (st : PS) (t : Token) (rest : List Token) (hr : rest ≠ [])
    (ht : st.toks = t :: lpT :: (c.toks ++ rpT :: (body.toks ++ rest))) (hfo : followOk tol sm body (rest.headD semiT) = true) :
    expectToken .lparen st = (true, st.next) ∧
    parseExpressionI cfg cfg.exprI LOWEST st.next.next = some (c.tree, nextK (c.toks.length + 1) st) ∧
    expectToken .rparen (nextK (c.toks.length + 1) st) = (true, nextK (c.toks.length + 2) st) ∧
    parseStatementI cfg cfg.stmtI (nextK (c.toks.length + 2) st).next =
      some (body.tree, nextK (c.toks.length + 2 + body.toks.length) st) ∧
    ∃ last, (nextK (c.toks.length + 2 + body.toks.length) st).toks = last :: rest := by
  have h2 : st.next.next.toks = c.toks ++ rpT :: (body.toks ++ rest) := toks_at [t, lpT] _ st ht (by simp)
  have hb : (nextK (c.toks.length + 2) st).next.toks = body.toks ++ rest := by
    have := toks_at (t :: lpT :: (c.toks ++ [rpT])) (body.toks ++ rest) st (by rw [ht]; simp) (by simp [stmt_toks_ne_nil])
    simpa [next_eq, nextK_nextK, Nat.add_assoc] using this
  have hc1 := toks_len_pos c
  have hb1 := stmt_toks_len_pos body
  have ec : nextK (c.toks.length - 1) st.next.next = nextK (c.toks.length + 1) st := by
    simp only [next_eq, nextK_nextK]; congr 1; omega
  have eb : nextK (body.toks.length - 1) (nextK (c.toks.length + 2) st).next = nextK (c.toks.length + 2 + body.toks.length) st := by
    simp only [next_eq, nextK_nextK]; congr 1; omega
  have e2 := eval_lowest hc c hwc ihc _ _ h2 (stops_closer hc rpT _ (by decide))
  have hpk := peek_after (toks_ne_nil c) h2
  have e4 := ihb _ rest hr hb hfo
  obtain ⟨last, hl⟩ := toks_after (stmt_toks_ne_nil body) hb
  rw [ec] at e2 hpk
  rw [eb] at e4 hl
  refine ⟨expect_ok (by rw [peek_of_toks ht]; rfl), e2, ?_, e4, last, hl⟩
  rw [expect_ok (by rw [hpk]; rfl)]
  simp only [next_eq, nextK_nextK]

theorem case_ifS (hc : BaseCfg cfg) (t : Token) (c : SE) (thn : SS) (hw : (SS.ifS t c thn).wf = true)
    (ihc : Main cfg c) (iht : StmtMain cfg tol sm thn) : StmtMain cfg tol sm (.ifS t c thn) := by
  intro st rest hr ht hfo
  obtain ⟨hfo', helse⟩ := follow_ifS hfo
  simp only [SS.wf, Bool.and_eq_true, beq_iff_eq] at hw
  have ht0 : st.toks = t :: lpT :: (c.toks ++ rpT :: (thn.toks ++ rest)) := by rw [ht]; simp [SS.toks]
  obtain ⟨e1, e2, e3, e4, last, hl⟩ := cond_body hc c hw.1.2 ihc thn iht st t rest hr ht0 hfo'
  obtain ⟨r0, rs, rfl⟩ := List.exists_cons_of_ne_nil hr
  have hpk : ((nextK (c.toks.length + 2 + thn.toks.length) st).peek.type == TokType.else_) = false := by
    rw [peek_of_toks hl]; simpa using helse
  rw [base_if hc ht0 hw.1.1, parseIfStatement, e1]
  simp only [Bool.not_true, Bool.false_eq_true, if_false, e2, Option.bind_eq_bind, Option.bind_some, e3, e4, hpk, cur_of_toks ht0]
  congr 2
  have := stmt_toks_len_pos thn
  simp only [SS.toks, List.length_append, List.length_cons]
  exact nextK_congr (by omega) _

theorem case_ifElse (hc : BaseCfg cfg) (t : Token) (c : SE) (thn : SS) (el : Token) (els : SS)
    (hw : (SS.ifElse t c thn el els).wf = true) (hthn : followOk tol sm thn el = true)
    (ihc : Main cfg c) (iht : StmtMain cfg tol sm thn) (ihe : StmtMain cfg tol sm els) : StmtMain cfg tol sm (.ifElse t c thn el els) := by
  intro st rest hr ht hfo
  simp only [SS.wf, Bool.and_eq_true, beq_iff_eq, Bool.not_eq_true'] at hw
  obtain ⟨⟨⟨⟨⟨hty, hwc⟩, _⟩, _⟩, _⟩, hel⟩ := hw
  have ht0 : st.toks = t :: lpT :: (c.toks ++ rpT :: (thn.toks ++ (el :: (els.toks ++ rest)))) := by
    rw [ht]; simp [SS.toks]
  obtain ⟨e1, e2, e3, e4, last, hl⟩ := cond_body hc c hwc ihc thn iht st t (el :: (els.toks ++ rest)) (by simp) ht0 hthn
  have hpk : ((nextK (c.toks.length + 2 + thn.toks.length) st).peek.type == TokType.else_) = true := by
    rw [peek_of_toks hl, hel]; rfl
  have e6 := ihe (nextK (c.toks.length + 2 + thn.toks.length) st).next.next rest hr
    (toks_at [last, el] _ _ hl (by simp [stmt_toks_ne_nil])) hfo
  rw [base_if hc ht0 hty, parseIfStatement, e1]
  simp only [Bool.not_true, Bool.false_eq_true, if_false, e2, Option.bind_eq_bind, Option.bind_some, e3, e4, hpk, if_true, e6,
    cur_of_toks ht0]
  congr 2
  have := stmt_toks_len_pos thn
  have := stmt_toks_len_pos els
  simp only [next_eq, nextK_nextK, SS.toks, List.length_append, List.length_cons]
  exact nextK_congr (by omega) _

theorem case_whileS (hc : BaseCfg cfg) (t : Token) (c : SE) (body : SS) (hw : (SS.whileS t c body).wf = true)
    (ihc : Main cfg c) (ihb : StmtMain cfg tol sm body) : StmtMain cfg tol sm (.whileS t c body) := by
  intro st rest hr ht hfo
  simp only [SS.wf, Bool.and_eq_true, beq_iff_eq] at hw
  have ht0 : st.toks = t :: lpT :: (c.toks ++ rpT :: (body.toks ++ rest)) := by rw [ht]; simp [SS.toks]
  obtain ⟨e1, e2, e3, e4, _⟩ := cond_body hc c hw.1.2 ihc body ihb st t rest hr ht0 hfo
  rw [base_while hc ht0 hw.1.1, parseWhileStatement, e1]
  simp only [Bool.not_true, Bool.false_eq_true, if_false, e2, Option.bind_eq_bind, Option.bind_some, e3, e4, cur_of_toks ht0]
  congr 2
  have := stmt_toks_len_pos body
  simp only [SS.toks, List.length_append, List.length_cons]
  exact nextK_congr (by omega) _

/-! ### blocks and functions -/

theorem case_block (hc : BaseCfg cfg) (body : SSList) (ih : BlockInv cfg body rbrT) : StmtMain cfg tol sm (.block body) := by
  intro st rest _ ht _
  have ht0 : st.toks = lbrT :: (body.toks ++ rbrT :: rest) := by rw [ht]; simp [SS.toks]
  rw [base_block hc ht0 rfl, block_rt body ih st rest ht0]
  congr 2
  simp [SS.toks]

/-- the common tail `( params ) { body }` of function declarations and function expressions; `st0` stands on the
    token before the `(` -/
theorem func_tail (ps : List Token) (body : SSList) (hps : ps.all isIdentTok = true) (ih : BlockInv cfg body rbrT)
    (st0 : PS) (x : Token) (rest : List Token)
    (ht : st0.toks = x :: lpT :: (paramToks ps ++ rpT :: lbrT :: (body.toks ++ rbrT :: rest))) :
    expectToken .lparen st0 = (true, st0.next) ∧
    parseFunctionParameters st0.next = some (ps.map identOf, nextK ((paramToks ps).length + 2) st0) ∧
    expectToken .lbrace (nextK ((paramToks ps).length + 2) st0) = (true, nextK ((paramToks ps).length + 3) st0) ∧
    parseBlockStatement cfg ((nextK ((paramToks ps).length + 3) st0).push .function) =
      some (.block lbrT body.tree rbrT, (nextK ((paramToks ps).length + 3 + (body.toks.length + 1)) st0).push .function) := by
  have e2 := params_rt ps hps st0.next lpT (lbrT :: (body.toks ++ rbrT :: rest)) (next_toks_cons ht)
  have hpk : (nextK ((paramToks ps).length + 2) st0).peek = lbrT :=
    peek_at (x :: lpT :: paramToks ps) (a := rpT) (post := body.toks ++ rbrT :: rest) (by rw [ht]; simp)
  have hlb : (nextK ((paramToks ps).length + 3) st0).toks = lbrT :: (body.toks ++ rbrT :: rest) := by
    have := toks_at (x :: lpT :: (paramToks ps ++ [rpT])) (lbrT :: (body.toks ++ rbrT :: rest)) st0 (by rw [ht]; simp) (by simp)
    simpa [Nat.add_assoc] using this
  refine ⟨expect_ok (by rw [peek_of_toks ht]; rfl), ?_, ?_, ?_⟩
  · rw [e2]; simp only [next_eq, nextK_nextK]; exact congrArg _ (congrArg _ (nextK_congr (by omega) _))
  · rw [expect_ok (by rw [hpk]; rfl)]
    simp only [next_eq, nextK_nextK]
  · rw [block_rt body ih _ rest (show ((nextK ((paramToks ps).length + 3) st0).push .function).toks = _ from hlb), nextK_push,
      nextK_nextK]

theorem case_funcD (hc : BaseCfg cfg) (t name : Token) (ps : List Token) (body : SSList)
    (hw : (SS.funcD t name ps body).wf = true) (ih : BlockInv cfg body rbrT) : StmtMain cfg tol sm (.funcD t name ps body) := by
  intro st rest _ ht _
  simp only [SS.wf, Bool.and_eq_true, beq_iff_eq, isIdentTok] at hw
  obtain ⟨⟨⟨hty, hname⟩, hps⟩, _⟩ := hw
  have ht0 : st.toks = t :: name :: lpT :: (paramToks ps ++ rpT :: lbrT :: (body.toks ++ rbrT :: rest)) := by
    rw [ht]; simp [SS.toks]
  have h1 := next_toks_cons ht0
  obtain ⟨e1, e2, e3, e4⟩ := func_tail ps body (by simpa [isIdentTok] using hps) ih st.next name rest h1
  rw [base_function hc ht0 hty, parseFunctionStatement,
    expect_ident hname ht0]
  simp only [Bool.not_true, Bool.false_eq_true, if_false, e1, e2, Option.bind_eq_bind, Option.bind_some, e3, e4, cur_of_toks ht0,
    identOfCur_of_toks h1, pop_push]
  congr 2
  simp only [next_eq, nextK_nextK, SS.toks, List.length_append, List.length_cons, List.length_nil]
  exact nextK_congr (by omega) _

/-- the optional name of a function expression; the cursor ends on the token before the `(` -/
theorem func_name (name : Option Token) (hname : (optTok name).all isIdentTok = true) {st : PS} {t : Token} {X : List Token}
    (ht : st.toks = t :: (optTok name ++ lpT :: X)) :
    (if st.peek.type == .ident then (some (identOfCur st.next), st.next) else (none, st)) =
      (name.map identOf, nextK (optTok name).length st) ∧
    ∃ x, (nextK (optTok name).length st).toks = x :: lpT :: X := by
  cases name with
  | none =>
    have : (st.peek.type == TokType.ident) = false := by rw [peek_of_toks ht]; rfl
    simp only [this, Bool.false_eq_true, if_false]
    exact ⟨rfl, t, ht⟩
  | some nm =>
    have hnm : nm.type = .ident := by simpa [optTok, isIdentTok] using hname
    have : (st.peek.type == TokType.ident) = true := by rw [peek_of_toks ht, hnm]; rfl
    simp only [this, if_true, identOfCur_of_toks (next_toks_cons ht)]
    exact ⟨rfl, nm, next_toks_cons ht⟩

theorem case_func (hc : BaseCfg cfg) (t : Token) (name : Option Token) (ps : List Token) (body : SSList)
    (hw : (SE.func t name ps body).wf = true) (ih : BlockInv cfg body rbrT) : Main cfg (.func t name ps body) := by
  intro p st rest _ ht _ _
  simp only [SE.wf, Bool.and_eq_true, beq_iff_eq] at hw
  obtain ⟨⟨⟨hty, hname⟩, hps⟩, _⟩ := hw
  have ht0 : st.toks = t :: (optTok name ++ lpT :: (paramToks ps ++ rpT :: lbrT :: (body.toks ++ rbrT :: rest))) := by
    rw [ht]; simp [SE.toks]
  have hpre : lookup basePrefixFns TokType.function = some .func := by decide
  obtain ⟨en, x, hx⟩ := func_name name hname ht0
  obtain ⟨e1, e2, e3, e4⟩ := func_tail ps body hps ih _ x rest hx
  rw [unfold_expr, parsePrefixExpression, hc.prefixFns, cur_of_toks ht0, hty, hpre]
  simp only
  rw [parseFunctionExpression, en]
  simp only [e1, Bool.not_true, Bool.false_eq_true, if_false, e2, Option.bind_eq_bind, Option.bind_some, e3, e4, pop_push,
    cur_of_toks ht0]
  show parseRemaining cfg (SE.func t name ps body).tree p _ = _
  congr 1
  simp only [nextK_nextK, SE.toks, List.length_append, List.length_cons, List.length_nil]
  exact nextK_congr (by omega) _

/-! ### `for` -/

/-- the Pratt invariant for an optional clause of `for`, and for its initialiser -/
def OptMain (cfg : PCfg) : SOpt → Prop
  | .none => True
  | .some e => Main cfg e

def InitMain (cfg : PCfg) : SInit → Prop
  | .none => True
  | .letV _ _ v => Main cfg v
  | .letN _ _ => True
  | .expr e => Main cfg e

/-- an optional clause (condition, update); `S` stands on the token in front of it -/
theorem opt_clause (hc : BaseCfg cfg) (o : SOpt) (hwo : o.wf = true) (iho : OptMain cfg o) (S : PS) (x closer : Token)
    (X : List Token) (hcl : closer = semiT ∨ closer = rpT) (ht : S.toks = x :: (o.toks ++ closer :: X)) :
    (if S.peek.type != closer.type then parseExpressionI cfg cfg.exprI LOWEST S.next else some (Expr.none, S)) =
      some (o.tree, nextK o.toks.length S) ∧
    ∃ last, (nextK o.toks.length S).toks = last :: closer :: X := by
  cases o with
  | none =>
    have ht' : S.toks = x :: closer :: X := ht
    have : (S.peek.type != closer.type) = false := by rw [peek_of_toks ht']; simp
    simp only [this, Bool.false_eq_true, if_false]
    exact ⟨rfl, x, ht'⟩
  | some e =>
    have hwe : e.wf = true := hwo
    obtain ⟨a, as, has, hpre⟩ := head_prefix e hwe
    have ht' : S.toks = x :: (e.toks ++ closer :: X) := ht
    have hne : (S.peek.type != closer.type) = true := by
      rw [has] at ht'; rw [peek_of_toks ht']
      rcases hcl with rfl | rfl
      · simpa [semiT] using prefix_ne hpre (x := .semicolon) (by decide)
      · simpa [rpT] using prefix_ne hpre (x := .rparen) (by decide)
    have hn : S.next.toks = e.toks ++ closer :: X := next_toks ht' (by simp)
    have he := eval_lowest hc e hwe iho S.next _ hn
      (stops_closer hc closer X (by rcases hcl with rfl | rfl <;> decide))
    obtain ⟨last, hl⟩ := toks_after (toks_ne_nil e) hn
    have := toks_len_pos e
    rw [show nextK (e.toks.length - 1) S.next = nextK e.toks.length S by
      simp only [next_eq, nextK_nextK]; exact nextK_congr (by omega) _] at he hl
    simp only [hne, if_true]
    exact ⟨he, last, hl⟩

/-- `let name` or `let name = v` as the first clause; `S` stands on the `let` -/
theorem let_clause (hc : BaseCfg cfg) (t name : Token) (hname : name.type = .ident) (S : PS) :
    (∀ X, S.toks = t :: name :: semiT :: X → parseLetExpression cfg S = some (.letE t (identOf name) .none, S.next)) ∧
    (∀ (v : SE) X, v.wf = true → Main cfg v → S.toks = t :: name :: assignT :: (v.toks ++ semiT :: X) →
      parseLetExpression cfg S = some (.letE t (identOf name) v.tree, nextK (v.toks.length + 2) S)) := by
  constructor
  · intro X ht
    have h1 := next_toks_cons ht
    have hpk : (S.next.peek.type == TokType.assign) = false := by rw [peek_of_toks h1]; rfl
    rw [parseLetExpression, expect_ident hname ht]
    simp only [Bool.not_true, Bool.false_eq_true, if_false, hpk, identOfCur_of_toks h1, cur_of_toks ht]
  · intro v X hwv ihv ht
    have h1 := next_toks_cons ht
    have hpk : (S.next.peek.type == TokType.assign) = true := by rw [peek_of_toks h1]; rfl
    have h3 : S.next.next.next.toks = v.toks ++ semiT :: X := toks_at [t, name, assignT] _ S ht (by simp)
    have := toks_len_pos v
    rw [parseLetExpression, expect_ident hname ht]
    simp only [Bool.not_true, Bool.false_eq_true, if_false, hpk, if_true, identOfCur_of_toks h1, cur_of_toks ht,
      eval_lowest hc v hwv ihv _ _ h3 (Or.inl rfl), Option.bind_eq_bind, Option.bind_some]
    congr 2
    simp only [next_eq, nextK_nextK]
    exact nextK_congr (by omega) _

/-- the first clause; `S` stands on the `(` -/
theorem init_clause (hc : BaseCfg cfg) (i : SInit) (hwi : i.wf = true) (ihi : InitMain cfg i) (S : PS) (x : Token)
    (X : List Token) (ht : S.toks = x :: (i.toks ++ semiT :: X)) :
    parseForInit cfg S = some (i.tree, nextK i.toks.length S) ∧
    ∃ last, (nextK i.toks.length S).toks = last :: semiT :: X := by
  rw [parseForInit]
  cases i with
  | none =>
    have ht' : S.toks = x :: semiT :: X := ht
    have : (S.peek.type != TokType.semicolon) = false := by rw [peek_of_toks ht']; rfl
    simp only [this, Bool.false_eq_true, if_false]
    exact ⟨rfl, x, ht'⟩
  | expr e =>
    have hwe : e.wf = true := hwi
    obtain ⟨a, as, has, hpre⟩ := head_prefix e hwe
    have ht' : S.toks = x :: (e.toks ++ semiT :: X) := ht
    obtain ⟨he, hl⟩ := opt_clause hc (.some e) hwe ihi S x semiT X (Or.inl rfl) ht'
    have hnl : (S.next.cur.type == TokType.let_) = false := by
      rw [has] at ht'
      rw [cur_of_toks (next_toks_cons ht')]; simpa using prefix_ne hpre (x := .let_) (by decide)
    have hne : (S.peek.type != TokType.semicolon) = true := by
      rw [has] at ht'
      rw [peek_of_toks ht']; simpa using prefix_ne hpre (x := .semicolon) (by decide)
    simp only [show semiT.type = TokType.semicolon from rfl, hne, if_true] at he
    simp only [hne, if_true, hnl, Bool.false_eq_true, if_false]
    exact ⟨he, hl⟩
  | letN t name =>
    simp only [SInit.wf, Bool.and_eq_true, beq_iff_eq, isIdentTok] at hwi
    have ht' : S.toks = x :: t :: name :: semiT :: X := ht
    have h1 := next_toks_cons ht'
    have hne : (S.peek.type != TokType.semicolon) = true := by rw [peek_of_toks ht', hwi.1]; rfl
    have hl : (S.next.cur.type == TokType.let_) = true := by rw [cur_of_toks h1, hwi.1]; rfl
    simp only [hne, if_true, hl, (let_clause hc t name hwi.2 S.next).1 X h1]
    exact ⟨rfl, name, next_toks_cons h1⟩
  | letV t name v =>
    simp only [SInit.wf, Bool.and_eq_true, beq_iff_eq, isIdentTok] at hwi
    obtain ⟨⟨hty, hname⟩, hwv⟩ := hwi
    have ht' : S.toks = x :: t :: name :: assignT :: (v.toks ++ semiT :: X) := ht
    have h1 := next_toks_cons ht'
    have hne : (S.peek.type != TokType.semicolon) = true := by rw [peek_of_toks ht', hty]; rfl
    have hl : (S.next.cur.type == TokType.let_) = true := by rw [cur_of_toks h1, hty]; rfl
    simp only [hne, if_true, hl, (let_clause hc t name hname S.next).2 v X hwv ihi h1]
    obtain ⟨last, hlast⟩ := toks_after (ts := t :: name :: assignT :: v.toks) (List.cons_ne_nil _ _) h1
    have e : nextK (v.toks.length + 2) S.next = nextK (SInit.letV t name v).toks.length S := by
      simp only [next_eq, nextK_nextK, SInit.toks, List.length_cons]; exact nextK_congr (by omega) _
    exact ⟨by rw [e]; rfl, last, e ▸ hlast⟩

theorem case_forS (hc : BaseCfg cfg) (t : Token) (i : SInit) (c u : SOpt) (body : SS) (hw : (SS.forS t i c u body).wf = true)
    (ihi : InitMain cfg i) (ihc : OptMain cfg c) (ihu : OptMain cfg u) (ihb : StmtMain cfg tol sm body) :
    StmtMain cfg tol sm (.forS t i c u body) := by
  intro st rest hr ht hfo
  simp only [SS.wf, Bool.and_eq_true, beq_iff_eq] at hw
  obtain ⟨⟨⟨⟨hty, hwi⟩, hwc⟩, hwu⟩, _⟩ := hw
  have ht0 : st.toks = t :: lpT :: (i.toks ++ semiT :: (c.toks ++ semiT :: (u.toks ++ rpT :: (body.toks ++ rest)))) := by
    rw [ht]; simp [SS.toks]
  have e0 : expectToken .lparen st = (true, st.next) := expect_ok (by rw [peek_of_toks ht0]; rfl)
  -- every clause leaves the cursor on its last token, in front of its separator
  obtain ⟨e1, l1, hA⟩ := init_clause hc i hwi ihi st.next lpT _ (next_toks_cons ht0)
  generalize hAdef : nextK i.toks.length st.next = A at e1 hA
  have e2 : expectToken .semicolon A = (true, A.next) := expect_ok (by rw [peek_of_toks hA]; rfl)
  obtain ⟨e3, l3, hB⟩ := opt_clause hc c hwc ihc A.next semiT semiT _ (Or.inl rfl) (next_toks_cons hA)
  generalize hBdef : nextK c.toks.length A.next = B at e3 hB
  have e4 : expectToken .semicolon B = (true, B.next) := expect_ok (by rw [peek_of_toks hB]; rfl)
  obtain ⟨e5, l5, hC⟩ := opt_clause hc u hwu ihu B.next semiT rpT _ (Or.inr rfl) (next_toks_cons hB)
  generalize hCdef : nextK u.toks.length B.next = C at e5 hC
  have e6 : expectToken .rparen C = (true, C.next) := expect_ok (by rw [peek_of_toks hC]; rfl)
  have e7 := ihb C.next.next rest hr (toks_at [l5, rpT] _ C hC (by simp [stmt_toks_ne_nil])) hfo
  rw [base_for hc ht0 hty, parseForStatement, e0]
  simp only [Bool.not_true, Bool.false_eq_true, if_false, e1, Option.bind_eq_bind, Option.bind_some, e2]
  rw [show TokType.semicolon = semiT.type from rfl, e3]
  simp only [Option.bind_some]
  rw [show semiT.type = TokType.semicolon from rfl, e4]
  simp only [Bool.not_true, Bool.false_eq_true, if_false]
  rw [show TokType.rparen = rpT.type from rfl, e5]
  simp only [Option.bind_some]
  rw [show rpT.type = TokType.rparen from rfl, e6]
  simp only [Bool.not_true, Bool.false_eq_true, if_false, e7, Option.bind_some, cur_of_toks ht0]
  congr 2
  subst hCdef hBdef hAdef
  have := stmt_toks_len_pos body
  simp only [next_eq, nextK_nextK, SS.toks, List.length_append, List.length_cons]
  exact nextK_congr (by omega) _

/-! ### object literals -/

/-- the `key : value ,` loop of an object literal, from the first token of a key to the last token of the last value -/
def PropsInv (cfg : PCfg) (ps : SPList) : Prop :=
  ∀ (acc : PropList) (st : PS) (X : List Token), ps ≠ .nil → st.toks = ps.toks ++ rbrT :: X → X ≠ [] →
    objectLoop cfg acc st = some (some (acc.app ps.tree), nextK (ps.toks.length - 1) st)

theorem props_nil : PropsInv cfg .nil := fun _ _ _ h => absurd rfl h

theorem props_cons (hc : BaseCfg cfg) (k v : SE) (rest : SPList) (hwk : k.wf = true) (hwv : v.wf = true)
    (ihk : Main cfg k) (ihv : Main cfg v) (ihr : PropsInv cfg rest) : PropsInv cfg (.cons k v rest) := by
  intro acc st X _ ht hX
  have ht0 : st.toks = k.toks ++ colonT :: (v.toks ++ (rest.ctoks ++ rbrT :: X)) := by rw [ht]; simp [SPList.toks]
  have ek := eval_lowest hc k hwk ihk st _ ht0 (stops_closer hc colonT _ (by decide))
  have hpk := peek_after (toks_ne_nil k) ht0
  have hv0 := toks_behind (toks_ne_nil k) (by simp [toks_ne_nil]) ht0
  generalize hK : nextK (k.toks.length - 1) st = K at ek hpk hv0
  -- behind the value: a comma or the closing brace
  have hstop : stops cfg LOWEST (rest.ctoks ++ rbrT :: X) := by
    cases rest with
    | nil => exact stops_closer hc rbrT X (by decide)
    | cons k2 v2 r2 => exact stops_closer hc commaT _ (by decide)
  have ev := eval_lowest hc v hwv ihv _ _ hv0 hstop
  generalize hV : nextK (v.toks.length - 1) K.next.next = V at ev
  rw [objectLoop, ek]
  simp only [Option.bind_eq_bind, Option.bind_some, expect_ok (ty := .colon) (by rw [hpk]; rfl), Bool.not_true,
    Bool.false_eq_true, if_false, ev]
  have := toks_len_pos k
  have := toks_len_pos v
  cases rest with
  | nil =>
    have hpk2 : V.peek = rbrT := hV ▸ peek_after (toks_ne_nil v) hv0
    simp only [show (V.peek.type != TokType.comma) = true by rw [hpk2]; rfl, if_true]
    congr 2
    · congr 1
      have := PropList.snoc_app acc k.tree v.tree .nil
      rw [PropList.app_nil] at this; exact this
    · subst hV hK
      simp only [next_eq, nextK_nextK, SPList.toks, SPList.ctoks, List.length_append, List.length_cons, List.length_nil]
      exact nextK_congr (by omega) _
  | cons k2 v2 r2 =>
    have hv1 : K.next.next.toks = v.toks ++ commaT :: ((SPList.cons k2 v2 r2).toks ++ rbrT :: X) := by
      rw [hv0]; simp [SPList.ctoks, SPList.toks]
    have hpk2 : V.peek = commaT := hV ▸ peek_after (toks_ne_nil v) hv1
    have hnext : V.next.next.toks = (SPList.cons k2 v2 r2).toks ++ rbrT :: X :=
      hV ▸ toks_behind (toks_ne_nil v) (by simp) hv1
    simp only [show (V.peek.type != TokType.comma) = false by rw [hpk2]; rfl, Bool.false_eq_true, if_false]
    rw [ihr (acc.snoc k.tree v.tree) _ X (by simp) hnext hX, PropList.snoc_app]
    congr 2
    subst hV hK
    have := toks_len_pos k2
    simp only [next_eq, nextK_nextK, SPList.toks, SPList.ctoks, List.length_append, List.length_cons]
    exact nextK_congr (by omega) _

theorem case_obj (hc : BaseCfg cfg) (t : Token) (ps : SPList) (hw : (SE.obj t ps).wf = true) (ih : PropsInv cfg ps) :
    Main cfg (.obj t ps) := by
  intro p st rest hr ht _ _
  simp only [SE.wf, Bool.and_eq_true, beq_iff_eq] at hw
  have ht0 : st.toks = t :: (ps.toks ++ rbrT :: rest) := by rw [ht]; simp [SE.toks]
  have hcur : st.cur = t := cur_of_toks ht0
  have hpre : lookup basePrefixFns TokType.lbrace = some .object := by decide
  rw [unfold_expr, parsePrefixExpression, hc.prefixFns, hcur, hw.1, hpre]
  simp only
  rw [parseObjectLiteral]
  cases ps with
  | nil =>
    have hpk : (st.peek.type == TokType.rbrace) = true := by rw [peek_of_toks ht0]; rfl
    simp only [hpk, if_true, Option.bind_eq_bind, Option.bind_some, hcur]
    show parseRemaining cfg (SE.obj t .nil).tree p _ = _
    congr 1
  | cons k v r =>
    simp only [SPList.wf, Bool.and_eq_true] at hw
    obtain ⟨a, as, has, hpfx⟩ := head_prefix k hw.2.1.1
    have hne : (SPList.cons k v r).toks ≠ [] := by simp [SPList.toks, has]
    have hpk : (st.peek.type == TokType.rbrace) = false := by
      have : st.toks = t :: a :: (as ++ colonT :: v.toks ++ r.ctoks ++ rbrT :: rest) := by rw [ht0]; simp [SPList.toks, has]
      rw [peek_of_toks this]; simpa using prefix_ne hpfx (x := .rbrace) (by decide)
    have hn : st.next.toks = (SPList.cons k v r).toks ++ rbrT :: rest := next_toks ht0 (by simp)
    have e1 := ih .nil st.next rest (by simp) hn hr
    obtain ⟨lastP, hlp⟩ := toks_after hne hn
    simp only [hpk, Bool.false_eq_true, if_false, e1, Option.bind_eq_bind, Option.bind_some,
      expect_ok (ty := .rbrace) (by rw [peek_of_toks hlp]; rfl), Bool.not_true, hcur, cur_of_toks (next_toks_cons hlp)]
    show parseRemaining cfg (SE.obj t (.cons k v r)).tree p _ = _
    congr 1
    have := List.length_pos_iff.mpr hne
    simp only [next_eq, nextK_nextK, SE.toks, List.length_append, List.length_cons, List.length_nil]
    exact nextK_congr (by omega) _

end Xjs.RA
