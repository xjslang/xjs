import XjsModel.Model.Printer
/-
  C06 (c): the indentation option changes only leading whitespace.
  `nrmB` deletes every run of spaces/tabs that directly follows a line feed (or stands at the very beginning);
  `Eqv x y` says that two outputs agree after this deletion and agree on whether they currently stand in such a
  run. (That two writers which differ only in their indent string stay so related under every writer operation and
  every printer is `IndRel`, in `IndentWriter` and `IndentTree`.)
-/
namespace Xjs

def isWs (c : Nat) : Bool := c == 32 || c == 9

/-- normalised bytes, starting in state `s` (`true` = inside leading whitespace of a line) -/
def nrmB : Bool → Bytes → Bytes
  | _, [] => []
  | s, c :: r =>
    if c == 10 then 10 :: nrmB true r
    else if s && isWs c then nrmB true r
    else c :: nrmB false r

/-- the state after the bytes -/
def nrmS : Bool → Bytes → Bool
  | s, [] => s
  | s, c :: r =>
    if c == 10 then nrmS true r
    else if s && isWs c then nrmS true r
    else nrmS false r

theorem nrmB_append (s : Bool) (x y : Bytes) : nrmB s (x ++ y) = nrmB s x ++ nrmB (nrmS s x) y := by
  induction x generalizing s with
  | nil => simp [nrmB, nrmS]
  | cons c r ih =>
    simp only [List.cons_append, nrmB, nrmS]
    split
    · simp [ih]
    · split <;> simp [ih]

theorem nrmS_append (s : Bool) (x y : Bytes) : nrmS s (x ++ y) = nrmS (nrmS s x) y := by
  induction x generalizing s with
  | nil => simp [nrmS]
  | cons c r ih =>
    simp only [List.cons_append, nrmS]
    split
    · simp [ih]
    · split <;> simp [ih]

def AllWs (u : Bytes) : Prop := ∀ c ∈ u, isWs c = true

theorem nrm_ws (u : Bytes) (h : AllWs u) : nrmB true u = [] ∧ nrmS true u = true := by
  induction u with
  | nil => simp [nrmB, nrmS]
  | cons c r ih =>
    have hc : isWs c = true := h c List.mem_cons_self
    have hr := ih (fun x hx => h x (List.mem_cons_of_mem _ hx))
    have h10 : (c == 10) = false := by
      unfold isWs at hc; cases h32 : c == 32 <;> cases h9 : c == 9 <;> simp_all <;> omega
    simp [nrmB, nrmS, h10, hc, hr]

def Eqv (x y : Bytes) : Prop := nrmB true x = nrmB true y ∧ nrmS true x = nrmS true y

theorem Eqv.refl (x : Bytes) : Eqv x x := ⟨rfl, rfl⟩

theorem Eqv.append {x y : Bytes} (h : Eqv x y) (s : Bytes) : Eqv (x ++ s) (y ++ s) := by
  unfold Eqv at *
  rw [nrmB_append, nrmB_append, nrmS_append, nrmS_append, h.1, h.2]
  exact ⟨rfl, rfl⟩

/-- after a line feed, different amounts of white space do not matter -/
theorem Eqv.append_nl_ws {x y : Bytes} (h : Eqv x y) (u v : Bytes) (hu : AllWs u) (hv : AllWs v) :
    Eqv (x ++ [10] ++ u) (y ++ [10] ++ v) := by
  unfold Eqv at *
  simp only [nrmB_append, nrmS_append, nrmB, nrmS, beq_self_eq_true, if_true, h.1, h.2,
    (nrm_ws u hu).1, (nrm_ws u hu).2, (nrm_ws v hv).1, (nrm_ws v hv).2]
  simp

/-- inside leading white space, more white space does not matter -/
theorem Eqv.append_ws {x y : Bytes} (h : Eqv x y) (hs : nrmS true x = true) (u v : Bytes) (hu : AllWs u) (hv : AllWs v) :
    Eqv (x ++ u) (y ++ v) := by
  have hs' : nrmS true y = true := by rw [← h.2]; exact hs
  unfold Eqv at *
  simp only [nrmB_append, nrmS_append, hs, hs', h.1, (nrm_ws u hu).1, (nrm_ws u hu).2, (nrm_ws v hv).1, (nrm_ws v hv).2]
  simp

theorem AllWs_replicate_flatten (n : Nat) (u : Bytes) (h : AllWs u) : AllWs (List.replicate n u).flatten := by
  intro c hc
  simp only [List.mem_flatten, List.mem_replicate] at hc
  obtain ⟨l, ⟨_, rfl⟩, hcl⟩ := hc
  exact h c hcl

/-! ### the last byte (for `separateSigns`) -/

/-- two equivalent outputs end in the same sign character or in none -/
theorem Eqv.last_sign {x y : Bytes} (h : Eqv x y) (c : Nat) (hc : c ≠ 10 ∧ isWs c = false) :
    (x.getLast? == some c) = (y.getLast? == some c) := by
  -- a last byte `c` is neither dropped nor followed by anything in the normal form, and leaves the white space state
  have key : ∀ z : Bytes, (z.getLast? == some c) = (!nrmS true z && ((nrmB true z).getLast? == some c)) := by
    intro z
    rcases List.eq_nil_or_concat z with rfl | ⟨init, d, rfl⟩
    · simp [nrmS, nrmB]
    · by_cases hd : d = c
      · subst hd
        have h10 : (d == 10) = false := by simpa using hc.1
        simp [nrmB_append, nrmS_append, nrmB, nrmS, hc.2, h10]
      · by_cases h10 : (d == 10) = true
        · simp [nrmB_append, nrmS_append, nrmB, nrmS, h10, hd]
        · cases hs : nrmS true init <;> cases hw : isWs d <;>
            simp [nrmB_append, nrmS_append, nrmB, nrmS, h10, hd, hs, hw]
  rw [key x, key y, h.1, h.2]

end Xjs
