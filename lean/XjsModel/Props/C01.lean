import XjsModel.Props.C02
import XjsModel.Props.C11
import XjsModel.Props.C14
import XjsModel.Props.C15
import XjsModel.Proofs.LexPrintAll
import XjsModel.Proofs.LexPrintRound
/-
  C01 — Transpilation preserves program behaviour.

  Meta-level assumption (DESIGN.md §5, not formalised): a JavaScript engine's observable behaviour on a script is
  determined by the script's ECMAScript parse tree, parenthesised expressions being transparent and a literal
  contributing only its value. Under it, "the output behaves like the source" reduces to "the output is a spelling of
  the same tree". The Lean theorems below are the links of that chain that are proved; the remaining links
  (positions / flags of the re-lexed tokens; numeric and backtick literal values; pretty mode) are decided by the correspondence run and by the model-free behaviour
  oracle, which RUNS source and output in a JavaScript engine in every configuration.

  Proved (all inputs / all trees):
    (1) source → tree keeps every token: the tokens of the tree are the tokens of the accepted source (C12);
    (2) tree → compact output does not depend on trivia (comments, blank lines) nor on whether a source map is
        requested (C15, C14), and compiling is a function of (configuration, tree);
    (3) every tree of the language is printed (compact mode, token level) so that the printed tokens parse back to the
        same tree without error (C03, whole programs) — so source tree = tree of the output;
    (3b) the compact TEXT of such a tree (lexically sane tokens) is read by the lexer as exactly those printed tokens, none
        of them after a line break or with a comment (C03 byte level, `Proofs/LexPrint*.lean`);
    (3c) hence parsing the compact text returns the tree again, up to token positions (`compact_output_is_a_spelling_of_the_tree`);
    (4) an error-free tree is complete and compiles in every configuration without failing (C11).
  Known findings in the oracle: nosemi-hazard (D6), trim-in-literal (D5) (restricted productions: repaired, f7f7cd3).
-/
namespace Xjs.C01
open Xjs Xjs.RA

/-- (1)+(4): an accepted program's tree carries exactly the source tokens and compiles in every configuration -/
theorem accepted_source_is_faithfully_represented (cfg : PCfg) (toks : List Token) (r : ParseResult)
    (h : parseProgram cfg toks = some r) (hok : r.errors = []) :
    (∃ k, r.final.toks = Xjs.C12.nextN k toks ∧ F (Xjs.C12.spanL toks k) = F r.prog.flat) ∧
    r.prog.complete = true ∧ ∀ ccfg : CompCfg, (compile ccfg r.prog).ok = true := by
  obtain ⟨k, h1, h2, _⟩ := Xjs.C12.accepted_text_is_the_tree cfg toks r h hok
  exact ⟨⟨k, h1, h2⟩, Xjs.C11.error_free_tree_is_complete cfg toks r h hok,
    fun ccfg => Xjs.C11.error_free_tree_compiles cfg toks r h hok ccfg⟩

/-- (2): the compact output is a function of the trivia-free tree, with or without source map -/
theorem compact_output_depends_on_tree_only (prog : StmtList) (sm : Bool) :
    (compile { pretty := false, sourceMap := sm } prog).code = (compile { pretty := false, sourceMap := false } prog.erase).code := by
  have h1 := (Xjs.C15.compact_ignores_comments prog false).1
  have h2 := (Xjs.C14.source_map_does_not_change_code { pretty := false } prog).1
  cases sm with
  | false => exact h1.symm
  | true => exact h2.trans h1.symm

/-- (3): for expressions, the tree of the output tokens is the printed tree -/
theorem operator_core_round_trip (cfg : PCfg) (hc : BaseCfg cfg) (s : SE) (hw : s.wf = true) (hterm : s.term = true)
    (st : PS) (rest : List Token) (hr : rest ≠ []) (ht : st.toks = s.toks ++ rest) (hstop : stops cfg LOWEST rest) :
    parseExpressionI cfg [] LOWEST st = some (s.tree, nextK (s.toks.length - 1) st) :=
  Xjs.C03.printed_tokens_parse_back cfg hc s hw hterm st rest hr ht hstop

/-- (3) for whole programs: the tree of the output tokens is the printed tree, and no error is reported -/
theorem program_round_trip (cfg : PCfg) (hc : BaseCfg cfg) (prog : SSList) (hw : prog.wf = true) (hterm : prog.term = true)
    (eofTok : Token) (he : eofTok.type = .eof) :
    ∃ r, parseProgram cfg (prog.toks ++ [eofTok]) = some r ∧ r.prog = prog.tree ∧ r.errors = [] ∧ r.hasErr = false :=
  Xjs.C03.printed_program_parses_back cfg hc prog hw hterm eofTok he

/-- (3b): the text of the compact output lexes to the printed tokens of the tree -/
theorem compact_text_is_the_printed_tokens (ccfg : CompCfg) (hc : ccfg.pretty = false) (prog : SSList) (hw : prog.wf = true)
    (hterm : prog.term = true) (hs : LP.saneB prog) :
    (lexAll (compile ccfg prog.tree).code).map LP.keyOf4 = prog.toks.map LP.quietKey ++ [LP.eofKey] :=
  LP.compact_text_lexes4 ccfg hc prog hw hterm hs

/-- (3)+(3b) end to end: the compact output, read again by lexer and parser (any mode), is the same tree up to token
    positions — "the output is a spelling of the same tree" as one statement, for compact mode -/
theorem compact_output_is_a_spelling_of_the_tree (tolerant smart : Bool) (ccfg : CompCfg) (hc : ccfg.pretty = false) (prog : SSList)
    (hw : prog.wf = true) (hterm : prog.term = true) (hs : LP.saneB prog) (hn : ∀ t ∈ prog.toks, LP.quietTok t) :
    ∃ r, parseSource { tolerant := tolerant, smart := smart } (compile ccfg prog.tree).code = some r ∧
      Pos.stmtListZ r.prog = Pos.stmtListZ prog.tree ∧ r.errors = [] ∧ r.hasErr = false :=
  LP.compact_round_trip tolerant smart ccfg hc prog hw hterm hs hn

end Xjs.C01

#print axioms Xjs.C01.accepted_source_is_faithfully_represented
#print axioms Xjs.C01.compact_output_depends_on_tree_only
#print axioms Xjs.C01.operator_core_round_trip
#print axioms Xjs.C01.program_round_trip
#print axioms Xjs.C01.compact_text_is_the_printed_tokens
#print axioms Xjs.C01.compact_output_is_a_spelling_of_the_tree
