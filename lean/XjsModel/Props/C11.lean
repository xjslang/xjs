import XjsModel.Proofs.ParserFrame
import XjsModel.Props.C10
import XjsModel.Proofs.ParserWfPass
import XjsModel.Proofs.ParserCompletePass
import XjsModel.Proofs.PrinterOk
import XjsModel.Proofs.ParserTotalBuilder
/-
  C11 — Parsing is total and its result obeys the error contract.

  Quantifier: ALL token lists / byte strings, ALL four mode combinations (and any operator tables and
  interceptor lists).

  Proved here (the frame theorem `Parse.steps` + inductions on `Steps`):
    (b) an error value is returned iff the error list is non-empty;
    (d) every reported error range coincides with the range of a token of the input
        (for byte input: a token of `lexAll src`); the error list only ever grows, errors are never
        dropped or rewritten by a later step;
    the cursor never moves backwards (ingredient of termination).
    (c) no statement list in the returned tree, at any depth, contains a nil entry — whatever errors occurred
        (`Parse.wf`, an induction on the parse relation);
    (e) whenever no error is reported the tree is complete (every mandatory child present, recursively:
        `Parse.complete`) and a complete tree compiles in EVERY configuration without dereferencing a nil child
        (`compile_ok`, structural induction over the printers).
    (a) TERMINATION: on every byte string, in all four modes, with any pass-through interceptor lists and any
        operator tables a builder can produce (no operator on the EOF token, infix levels ≥ LOWEST), every function
        of the parser returns (`Total.all`: induction on the number of tokens left, the 22 functions of the mutual
        least-fixed-point block ordered by their same-size calls; `parseProgram_total`). The measure argument is the
        one that fails when a token gets a binding power without an infix parse function (the Pratt loop would then
        spin without consuming): `TablesOk`, re-checked for the tables extracted from /repo (TableObligations).
  Not expressible in the model: panics (the model has no partial operation; nil dereferences are covered by (c), (e));
  that is decided by the correspondence run (panicking ops are compared) and the error-contract oracle on raw bytes
  and token mutations in all four modes.
-/
namespace Xjs.C11
open Xjs

/-- (b) the error contract of `ParseProgram`: `err != nil` exactly when `Errors()` is non-empty -/
theorem error_value_iff_errors (cfg : PCfg) (toks : List Token) (r : ParseResult)
    (h : parseProgram cfg toks = some r) : r.hasErr = true ↔ r.errors ≠ [] := by
  unfold parseProgram at h
  obtain ⟨⟨stmts, st⟩, _, h2⟩ := bind_some h
  cases h2
  cases st.errors <;> simp

/-- errors are only ever appended: what a sub-parser has reported stays reported, in order -/
theorem errors_only_grow (cfg : PCfg) (is : List SI) (st : PS) (r : Stmt × PS)
    (h : parseStatementI cfg is st = some r) : st.errors <+: r.2.errors :=
  (steps_parseStatementI h).errors_prefix

/-- (d) every reported error lies exactly on the range of a token of the input -/
theorem error_ranges_are_token_ranges (cfg : PCfg) (toks : List Token) (hne : toks ≠ []) (r : ParseResult)
    (h : parseProgram cfg toks = some r) :
    ∀ e ∈ r.errors, ∃ t ∈ toks, e.range = t.range := by
  have hs := steps_parseProgram cfg toks r h
  have h0 : RangesIn toks [] (PS.init toks) :=
    ⟨hne, fun t ht => ⟨t, ht, rfl⟩, fun e he => by simp [PS.init] at he⟩
  have := hs.ranges toks [] h0
  unfold parseProgram at h
  obtain ⟨⟨stmts, st⟩, _, h2⟩ := bind_some h
  cases h2
  intro e he
  rcases this.errs e he with h' | h'
  · simp at h'
  · exact h'

/-- (d) for byte input: the ranges are ranges of tokens the lexer delivers for that input -/
theorem error_ranges_are_token_ranges_src (cfg : PCfg) (src : Bytes) (r : ParseResult)
    (h : parseSource cfg src = some r) :
    ∀ e ∈ r.errors, ∃ t ∈ lexAll src, e.range = t.range := by
  obtain ⟨ts, e, he, _, _⟩ := Xjs.C10.lexAll_total src
  exact error_ranges_are_token_ranges cfg (lexAll src) (by rw [he]; simp) r h

/-- the parser never un-reads a token: the buffer of tokens still to be consumed never grows -/
theorem cursor_never_moves_backwards (cfg : PCfg) (is : List SI) (st : PS) (r : Stmt × PS)
    (h : parseStatementI cfg is st = some r) : r.2.toks.length ≤ st.toks.length :=
  (steps_parseStatementI h).toks_length

/-- (c) statement lists in the returned tree never contain nil entries, whatever the input and the mode -/
theorem no_nil_in_statement_lists (cfg : PCfg) (toks : List Token) (r : ParseResult)
    (h : parseProgram cfg toks = some r) : r.prog.wf = true := by
  unfold parseProgram at h
  obtain ⟨⟨stmts, st⟩, h1, h2⟩ := bind_some h
  cases h2
  exact (Parse.of_run (c := .programLoop .nil) h1).wf rfl

/-- (e) whenever no error is reported, the tree has all mandatory children … -/
theorem error_free_tree_is_complete (cfg : PCfg) (toks : List Token) (r : ParseResult)
    (h : parseProgram cfg toks = some r) (hok : r.errors = []) : r.prog.complete = true := by
  unfold parseProgram at h
  obtain ⟨⟨stmts, st⟩, h1, h2⟩ := bind_some h
  cases h2
  exact ((Parse.of_run (c := .programLoop .nil) h1).errorFree (by simp_all [PS.elen])).complete rfl

/-- (e) … and compiles in EVERY configuration (compact, pretty with any indent, with or without semicolons
    and source map) without dereferencing a nil child -/
theorem error_free_tree_compiles (cfg : PCfg) (toks : List Token) (r : ParseResult)
    (h : parseProgram cfg toks = some r) (hok : r.errors = []) (ccfg : CompCfg) :
    (compile ccfg r.prog).ok = true :=
  compile_ok ccfg r.prog (error_free_tree_is_complete cfg toks r h hok)

/-- the lexer ends every token list with EOF, so `ParseProgram` returns on every source, given tables it terminates on -/
theorem parseSource_total {cfg : PCfg} (hT : Total.TablesOk cfg) (src : Bytes) : ∃ r, parseSource cfg src = some r := by
  obtain ⟨ts, e, h1, h2, _⟩ := Xjs.C10.lexAll_total src
  exact Total.parseProgram_total hT (lexAll src) ⟨ts, e, h1, h2⟩

/-- (a) PARSING TERMINATES, for every byte string: all four modes, any pass-through interceptor lists -/
theorem parsing_terminates (tolerant smart : Bool) (si : List SI) (ei : List EI) (src : Bytes) :
    ∃ r, parseSource { tolerant := tolerant, smart := smart, stmtI := si, exprI := ei } src = some r :=
  parseSource_total (Total.tablesOk_base tolerant smart si ei) src

/-- (a) … and with the operator tables of any builder: custom prefix / infix / postfix operators -/
theorem parsing_terminates_with_custom_operators (b : Builder) (si : List SI) (ei : List EI) (src : Bytes)
    (hp : ∀ t ∈ b.prefixOps, t ≠ .eof) (hi : ∀ op ∈ b.infixOps, op.1 ≠ .eof ∧ 1 ≤ op.2) (hq : ∀ t ∈ b.postfixOps, t ≠ .eof) :
    ∃ r, parseSource (b.config si ei) src = some r :=
  parseSource_total (Total.tablesOk_builder b si ei hp hi hq) src

/-- the whole contract in one statement: for every byte string and mode there IS a result, and it obeys (b)–(e) -/
theorem parse_total_and_contract (tolerant smart : Bool) (si : List SI) (ei : List EI) (src : Bytes) :
    ∃ r, parseSource { tolerant := tolerant, smart := smart, stmtI := si, exprI := ei } src = some r ∧
      (r.hasErr = true ↔ r.errors ≠ []) ∧ r.prog.wf = true ∧ (∀ e ∈ r.errors, ∃ t ∈ lexAll src, e.range = t.range) ∧
      (r.errors = [] → r.prog.complete = true ∧ ∀ ccfg : CompCfg, (compile ccfg r.prog).ok = true) := by
  obtain ⟨r, h⟩ := parsing_terminates tolerant smart si ei src
  exact ⟨r, h, error_value_iff_errors _ _ r h, no_nil_in_statement_lists _ _ r h,
    error_ranges_are_token_ranges_src _ src r h,
    fun hok => ⟨error_free_tree_is_complete _ _ r h hok, fun c => error_free_tree_compiles _ _ r h hok c⟩⟩

/-- the hypothesis of termination is sharp: a token with a binding power but no infix parse function makes the
    Pratt loop spin (the model's least fixed point is undefined there — what a seeded table slip produces) -/
example : ¬ Total.TablesOk { precs := (TokType.ident, 5) :: basePrecedences } := by
  intro h
  have := h.infix_of_prec .ident (by decide)
  revert this; decide

/-! Non-vacuity -/
example : ∃ r, parseProgram {} [dummyTok] = some r ∧ r.hasErr = false := by
  have h : parseProgram {} [dummyTok] =
      some { prog := .nil, errors := [], hasErr := false, final := PS.init [dummyTok] } := by
    rw [parseProgram, programLoop]
    simp [PS.init, PS.cur, dummyTok]
  exact ⟨_, h, rfl⟩

end Xjs.C11

#print axioms Xjs.C11.error_value_iff_errors
#print axioms Xjs.C11.errors_only_grow
#print axioms Xjs.C11.error_ranges_are_token_ranges
#print axioms Xjs.C11.error_ranges_are_token_ranges_src
#print axioms Xjs.C11.cursor_never_moves_backwards
#print axioms Xjs.C11.no_nil_in_statement_lists
#print axioms Xjs.C11.error_free_tree_is_complete
#print axioms Xjs.C11.error_free_tree_compiles
#print axioms Xjs.C11.parsing_terminates
#print axioms Xjs.C11.parsing_terminates_with_custom_operators
#print axioms Xjs.C11.parse_total_and_contract
