import XjsModel.Gen.Tables
import XjsModel.Model.Builder
import XjsModel.Model.Printer
/-
  Table obligations: the tables re-extracted from /repo's source on every run (`XjsModel/Gen/Tables.lean`)
  against the tables the hand-written model and the proofs use. Each is decided by kernel evaluation.
  A source change to a table makes the obligations about that table fail by name.
-/
namespace Xjs.Tables
open Xjs

/-- insertion sort (structural, so the kernel can evaluate it) -/
def insertBy {α} (le : α → α → Bool) (x : α) : List α → List α
  | [] => [x]
  | y :: ys => if le x y then x :: y :: ys else y :: insertBy le x ys

def isort {α} (le : α → α → Bool) : List α → List α
  | [] => []
  | x :: xs => insertBy le x (isort le xs)

def sortPairs (l : List (Nat × Nat)) : List (Nat × Nat) := isort (fun a b => a.1 ≤ b.1) l

def bytesLe : List Nat → List Nat → Bool
  | [], _ => true
  | _ :: _, [] => false
  | a :: as, b :: bs => a < b || (a == b && bytesLe as bs)

def prefixKindIndex : PrefixKind → Nat
  | .ident => 0 | .int => 1 | .float => 2 | .string => 3 | .rawString => 4 | .bool => 5 | .null => 6
  | .unary => 7 | .group => 8 | .array => 9 | .object => 10 | .func => 11

def infixKindIndex : InfixKind → Nat
  | .binary => 0 | .assign => 1 | .compound => 2 | .call => 3 | .member => 4 | .index => 5 | .postfix => 6

/-- token numbering: the `iota` block of token.go is the model's constructor order -/
theorem token_numbering : Gen.tokenNumbers = TokType.builtins.map TokType.toNat ∧ Gen.tokenConstCount = TokType.builtins.length := by decide

theorem token_ofNat_toNat : ∀ t ∈ TokType.builtins, TokType.ofNat t.toNat = t := by decide

theorem dynamic_start : Gen.dynamicTokensStart = DYNAMIC_TOKENS_START ∧ TokType.builtins.length ≤ DYNAMIC_TOKENS_START := by decide

/-- `Type.String()` -/
theorem type_strings : Gen.typeStrings = TokType.builtins.map (fun t => (t.toNat, typeName t)) := by decide

/-- `token.Keywords` -/
theorem keywords : Gen.keywords = isort (fun a b => bytesLe a.1 b.1) (keywordTable.map (fun kv => (kv.1, kv.2.toNat))) := by decide

/-- parser precedence constants -/
theorem parser_levels : Gen.parserLevels = [LOWEST, ASSIGNMENT, LOGICAL_OR, LOGICAL_AND, EQUALITY, COMPARISON, SUM, PRODUCT,
    UNARY, POSTFIX, CALL, MEMBER] ∧ Gen.parserLevelCount = 12 := by decide

/-- the package-level `precedences` map -/
theorem precedences : Gen.precedences = sortPairs (basePrecedences.map (fun kv => (kv.1.toNat, kv.2))) := by decide

/-- `prefixParseFns` bindings -/
theorem prefix_fns : Gen.prefixFns = sortPairs (basePrefixFns.map (fun kv => (kv.1.toNat, prefixKindIndex kv.2))) := by decide

/-- `infixParseFns` bindings -/
theorem infix_fns : Gen.infixFns = sortPairs (baseInfixFns.map (fun kv => (kv.1.toNat, infixKindIndex kv.2))) := by decide

/-- duplicate-bookkeeping seeds of `NewBuilder` -/
theorem builder_seeds :
    Gen.seedPrefix = isort (fun a b => a ≤ b) (Builder.new.regPrefix.map TokType.toNat) ∧
    Gen.seedPostfix = isort (fun a b => a ≤ b) (Builder.new.regPostfix.map TokType.toNat) ∧
    Gen.seedInfixIsPrecedenceKeys = true ∧
    Builder.new.regInfix = basePrecedences.map (·.1) := by decide

/-- the clauses of `shouldInsertSemicolon`'s switch that return false -/
theorem asi_clauses : Gen.asiReturnsFalse = asiContinuation.map TokType.toNat := by decide

/-- ast precedence constants -/
theorem ast_levels : Gen.astLevels = [precLowest, precAssignment, precLogicalOr, precLogicalAnd, precEquality, precComparison,
    precSum, precProduct, precUnary, precPostfix, precCall, precMember, precAtomic] ∧ Gen.astLevelCount = 13 := by decide

/-- `ast.operatorPrecedence` agrees with the model on every built-in token type -/
theorem operator_precedence :
    ∀ t ∈ TokType.builtins, ((Gen.operatorPrecedence.find? (fun kv => kv.1 == t.toNat)).map (·.2)).getD Gen.operatorPrecedenceDefault
      = operatorPrecedence t := by decide

/-- each node type's `Precedence()` constant -/
theorem node_precedence :
    Gen.nodePrecedence = [precAtomic, precAtomic, precAtomic, precAtomic, precAtomic, precAtomic, precAtomic,
      precAssignment, precUnary, precPostfix, precAtomic, precCall, precMember, precAssignment, precAssignment,
      precAtomic, precAtomic, precAtomic] ∧ Gen.nodePrecedenceCount = 19 ∧ Gen.binaryUsesOperatorPrecedence = true := by decide

/-- KEY obligation for C03/C02: the printer's precedence of an operator token is the parser's binding power,
    for every token that has one (read from the EXTRACTED tables) -/
theorem printer_precedence_eq_parser_binding_power :
    ∀ kv ∈ Gen.precedences, ((Gen.operatorPrecedence.find? (fun x => x.1 == kv.1)).map (·.2)).getD Gen.operatorPrecedenceDefault = kv.2 := by decide

/-- every token with a binding power has an infix parse function and vice versa (no silent loop in
    `ParseRemainingExpressionWithPrecedence`) -/
theorem infix_keys_eq_precedence_keys : Gen.infixFns.map (·.1) = Gen.precedences.map (·.1) := by decide

/-- the precondition of parser termination (C11 `parsing_terminates`, `Total.TablesOk`), read from the EXTRACTED tables:
    binding powers start at LOWEST, every token binding tighter than LOWEST has an infix parse function, and the
    end-of-input token has neither an infix nor a prefix parse function -/
theorem termination_precondition :
    (∀ kv ∈ Gen.precedences, 1 ≤ kv.2 ∧ (1 < kv.2 → (Gen.infixFns.map (·.1)).contains kv.1 = true)) ∧
    (Gen.infixFns.map (·.1)).contains TokType.eof.toNat = false ∧
    (Gen.prefixFns.map (·.1)).contains TokType.eof.toNat = false ∧
    (Gen.precedences.map (·.1)).contains TokType.eof.toNat = false := by decide

/-- the operator / delimiter dispatch of the Go lexer (`switch l.CurrentChar` of baseNextToken, re-extracted on every
    run as (first character, look-ahead character or 0, token constant)): on each listed character, with the listed
    look-ahead, the model lexer returns the same token constant, spelled with exactly those bytes, and stops behind them -/
theorem lexer_dispatch :
    (∀ e ∈ Gen.lexerDispatch,
      (baseNextToken false [] { rest := if e.2.1 = 0 then [e.1, 59] else [e.1, e.2.1, 59] }).1.type.toNat = e.2.2 ∧
      (baseNextToken false [] { rest := if e.2.1 = 0 then [e.1, 59] else [e.1, e.2.1, 59] }).1.lit = (if e.2.1 = 0 then [e.1] else [e.1, e.2.1]) ∧
      (baseNextToken false [] { rest := if e.2.1 = 0 then [e.1, 59] else [e.1, e.2.1, 59] }).2.rest = [59]) ∧
    Gen.lexerDispatch.length = 31 := by decide

/-- Base64 alphabet and map version -/
theorem base64 : Gen.base64Chars = base64Table ∧ Gen.base64Chars.length = 64 := by decide
theorem map_version : Gen.sourceMapVersion = 3 := by decide

/-- package-level variables are never written (C14: shared tables are read-only) -/
theorem globals_read_only : Gen.globalsWrittenCount = 0 := by decide

end Xjs.Tables
