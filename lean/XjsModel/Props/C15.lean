import XjsModel.Proofs.PrinterErase
import XjsModel.Proofs.PrinterComments
import XjsModel.Proofs.ParserAnchorPass
import XjsModel.Proofs.CommentsHead
import XjsModel.Proofs.LexerTrivia
import XjsModel.Proofs.CommentsChain
import XjsModel.Proofs.Lookup
import XjsModel.Props.C10
/-
  C15 — The pretty printer keeps statement-level comments; compact output has none.

  Proved here for ALL trees: compact output is a function of the comment-free tree (so it contains no comment
  text and no comment can alter the code around it), also with a source map requested.
  Proved here for ALL complete trees in pretty mode: the printer hands the trivia entries of every stored token to
  `WriteLeadingComments` exactly once each, in the order of `Spec/Comments` (source order of the tokens), and each
  such call writes its entries verbatim (`//` in front of a non-empty one) and leaves the code that follows on a fresh
  indented line; in compact mode no entry is ever written. `comments` is a ghost field of the model (the log of
  entries written); the correspondence run ties the bytes the model writes to the Go printer's, and the
  comment-inventory oracle checks the same statement on the Go side from the parsed source.
  From the source text: the entries a token carries are those of the gap in front of it (lexer), a statement parsed
  without error starts at the cursor token and a block keeps its braces (parser), what is replayed for a statement
  starts with the entries of its first token (printer); together, for every source text: in every statement list of
  the parsed tree the entries replayed for a statement begin with those of its first token.
-/
namespace Xjs.C15
open Xjs

/-- compact compilation does not look at trivia: comments (and blank-line markers) of every token are irrelevant -/
theorem compact_ignores_comments (prog : StmtList) (sm : Bool) :
    (compile { pretty := false, sourceMap := sm } prog.erase).code = (compile { pretty := false, sourceMap := sm } prog).code ∧
    (compile { pretty := false, sourceMap := sm } prog.erase).map = (compile { pretty := false, sourceMap := sm } prog).map := by
  unfold compile
  simp only [Bool.false_eq_true, if_false]
  rw [writeProgramStmts_erase prog true _ rfl]
  exact ⟨rfl, rfl⟩

/-- the same for `debug.ToString` -/
theorem debug_ignores_comments (prog : StmtList) : debugProgramToString prog.erase = debugProgramToString prog := by
  unfold debugProgramToString
  exact congrArg CW.out (writeProgramStmts_erase prog true {} rfl)

/-- the writer never changes its mode: a compact writer stays compact through any tree -/
theorem mode_is_stable (prog : StmtList) (cw : CW) : (writeProgramStmts prog true cw).pretty = cw.pretty :=
  pretty_writeProgramStmts prog true cw

/-- pretty mode: every trivia entry of the tree is replayed exactly once, in order -/
theorem pretty_replays_every_comment_once_in_order (cfg : CompCfg) (prog : StmtList) (hp : cfg.pretty = true)
    (hc : prog.complete = true) : (compile cfg prog).comments = prog.cmts := by
  unfold compile
  exact (clog_writeProgramStmts prog true _ hp hc).trans (by simp)

/-- compact mode: no trivia entry is written, whatever the tree -/
theorem compact_writes_no_comment (cfg : CompCfg) (prog : StmtList) (hp : cfg.pretty = false) :
    (compile cfg prog).comments = [] := by
  unfold compile
  exact clog_c_writeProgramStmts prog true _ hp

/-- what one replay writes: the entries verbatim, then a pending line break and indentation for the code that follows -/
theorem replay_is_verbatim (cw : CW) (cs : List Bytes) (hp : cw.pretty = true) (hne : cs ≠ []) :
    (cw.leadingComments cs).out = cw.out ++ commentText (List.replicate cw.indentLevel cw.indentUnit).flatten cs true ∧
    (cw.leadingComments cs).pendings = [10, 9] ∧ (cw.leadingComments cs).clog = cw.clog ++ cs :=
  leadingComments_pretty cw cs hp hne

/-- the entries of a statement list are those of its statements in order; those of a block end with the closing brace's -/
theorem comments_follow_statement_order (s : Stmt) (rest : StmtList) (tok rb : Token) :
    (StmtList.cons s rest).cmts = s.cmts ++ rest.cmts ∧
    (Stmt.block tok (.cons s rest) rb).cmts = tok.comments ++ (s.cmts ++ rest.cmts) ++ rb.comments := by
  simp [StmtList.cmts, Stmt.cmts]

/-! ### from the source text to the token, from the token to the statement -/

/-- LEXER: the entries a token carries are those of the text between the previous token and it (`Tiling.Entries`:
    one empty entry per line feed that does not end a comment, one entry per `//` comment holding its text without
    trailing spaces) — for every token request, at any cursor -/
theorem token_carries_the_entries_of_its_gap (s : LS) :
    Tiling.Entries (s.rest.take (trivia s.rest).len) (nextToken s).1.comments :=
  Tiling.token_comments_are_gap_entries s

/-- … and a text has one list of entries -/
theorem gap_entries_are_unique {b : Bytes} {es es' : List Bytes} (h : Tiling.Entries b es) (h' : Tiling.Entries b es') :
    es = es' := h.unique h'

/-- PARSER: every call of `ParseStatement` (through any interceptor chain, in any mode, at any depth) that records no
    error returns a statement whose first token is the token the parser stood on — the one that carries the comments
    written in front of the statement -/
theorem statement_starts_at_the_cursor (cfg : PCfg) (is : List SI) (st : PS) (s : Stmt) (st' : PS)
    (h : parseStatementI cfg is st = some (s, st')) (hok : st'.elen = st.elen) : s.firstTok = some st.cur :=
  ((Parse.of_run (c := .stmtI is) h).errorFree (Nat.le_of_eq hok)).anchored

/-- PARSER: a block keeps its two braces: the `{` it began at and the token its statement loop stopped at (the `}`;
    the comments after the last statement travel on it) -/
theorem block_keeps_its_braces (cfg : PCfg) (st : PS) (s : Stmt) (st' : PS)
    (h : parseBlockStatement cfg st = some (s, st')) : ∃ ss, s = .block st.cur ss st'.cur := by
  rw [parseBlockStatement.eq_def] at h
  obtain ⟨⟨ss, st1⟩, h1, h2⟩ := bind_some h
  dsimp only at h2
  cases h2
  refine ⟨ss, ?_⟩
  split <;> rfl

/-- PRINTER: what is replayed for a statement starts with the entries of its first token (no comment on a postfix
    operator of its left spine — `postfixBare`, see `Spec/Comments`) -/
theorem replay_starts_with_the_first_token (s : Stmt) (h : s.postfixBare = true) :
    ∃ rest, s.cmts = headCmts s.firstTok ++ rest := s.cmts_head h

/-! ### the links put together: lexed and parsed input -/

/-- in the built-in table `++` and `--` are the only postfix operators -/
theorem builtin_postfix_operators_are_updates (cfg : PCfg) (h : cfg.infixFns = baseInfixFns) : PostfixIsUpdate cfg := by
  intro ty hl
  rw [h] at hl
  exact postfix_update hl

/-! the default configuration is an instance -/
example : PostfixIsUpdate {} := builtin_postfix_operators_are_updates {} rfl

/-- LEXER: a token that carries entries but does not follow a line break stands at the end of the input (or on a NUL
    byte): it is no `++` / `--` — for every token of every source -/
theorem lexed_tokens_are_quiet (src : Bytes) : ∀ t ∈ lexAll src, t.quiet := by
  intro t ht
  unfold lexAll at ht
  rw [C10.tokens_of_requests] at ht
  obtain ⟨st, _, rfl⟩ := List.mem_map.mp ht
  exact nextToken_quiet st

/-- PARSER: no postfix `++` / `--` node follows a line break, and its token is a postfix operator of the table -/
theorem postfix_operators_stay_on_the_line (cfg : PCfg) (toks : List Token) (r : ParseResult)
    (h : parseProgram cfg toks = some r) : r.prog.pfOk cfg = true := pf_parseProgram cfg toks r h

/-- PARSER (provenance): whatever holds of every input token (and of the end-of-input repeats) holds of every token
    stored in the tree — the tree's tokens are the input's tokens as full records, trivia included -/
theorem tree_tokens_are_input_tokens (cfg : PCfg) (P : Token → Prop) (hc : Closed P) (toks : List Token) (r : ParseResult)
    (h : parseProgram cfg toks = some r) (ht : ∀ t ∈ toks, P t) : r.prog.allT P := prov_parseProgram cfg P hc toks r h ht

/-- TOGETHER, for every source text, every mode and interceptor chain, with the built-in postfix operators, whatever
    errors are reported: in every statement list of the tree, at any depth, what the pretty printer replays for a
    statement begins with the entries of the statement's first token (`headsFirst`, `Proofs/CommentsChain`) — the
    token the parser stood on (`statement_starts_at_the_cursor`), whose entries are those of the text in front of it
    (`token_carries_the_entries_of_its_gap`) -/
theorem statement_comments_lead_their_statement (cfg : PCfg) (hpf : PostfixIsUpdate cfg) (src : Bytes) (r : ParseResult)
    (h : parseProgram cfg (lexAll src) = some r) : r.prog.headsFirst :=
  StmtList.headsFirst_of hpf r.prog (pf_parseProgram cfg _ r h)
    (prov_parseProgram cfg Token.quiet quiet_closed _ r h (lexed_tokens_are_quiet src))

/-! Non-vacuity: the comment on a statement's first token is written in pretty mode and logged -/
example :
    let t : Token := { type := .ident, lit := [97], sl := 1, sc := 0, el := 1, ec := 1, nl := true, comments := [[32, 104, 105]] }
    let r := compile { pretty := true } (.cons (.exprS (.ident { tok := t, value := [97] })) .nil)
    r.comments = [[32, 104, 105]] ∧ r.code = [47, 47, 32, 104, 105, 10, 97] := by decide

/-! Non-vacuity: a statement whose token carries a comment -/
example :
    let t : Token := { type := .ident, lit := [97], sl := 1, sc := 0, el := 1, ec := 1, nl := true, comments := [[32, 104, 105]] }
    (compile {} (.cons (.exprS (.ident { tok := t, value := [97] })) .nil)).code = [97, 59] := by decide

end Xjs.C15

#print axioms Xjs.C15.compact_ignores_comments
#print axioms Xjs.C15.debug_ignores_comments
#print axioms Xjs.C15.mode_is_stable
#print axioms Xjs.C15.pretty_replays_every_comment_once_in_order
#print axioms Xjs.C15.compact_writes_no_comment
#print axioms Xjs.C15.replay_is_verbatim
#print axioms Xjs.C15.token_carries_the_entries_of_its_gap
#print axioms Xjs.C15.gap_entries_are_unique
#print axioms Xjs.C15.statement_starts_at_the_cursor
#print axioms Xjs.C15.block_keeps_its_braces
#print axioms Xjs.C15.replay_starts_with_the_first_token
#print axioms Xjs.C15.builtin_postfix_operators_are_updates
#print axioms Xjs.C15.lexed_tokens_are_quiet
#print axioms Xjs.C15.postfix_operators_stay_on_the_line
#print axioms Xjs.C15.tree_tokens_are_input_tokens
#print axioms Xjs.C15.statement_comments_lead_their_statement
