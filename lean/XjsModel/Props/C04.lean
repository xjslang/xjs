import XjsModel.Proofs.ParserPlainPass
import XjsModel.Proofs.ParserEventsPass
/-
  C04 — Plugin interception is transparent, ordered and re-entrant.

  Quantifier: ALL token lists (valid or malformed input), ALL modes and operator tables, ANY number of
  statement interceptors and of expression interceptors of both pass-through kinds (observer: calls `next()`;
  re-entrant: parses the prefix itself and asks the parser for the remaining expression), in any order.

  Proved here:
    (a) transparency: whenever the intercepted parse returns, the interceptor-free parse of the same tokens
        returns the same tree, the same errors and the same final cursor (a simulation, path by path of the
        parser: `Parse.plain`, `plain_mutual`);
    (b) order: the interceptors of a chain run once per parse step, in installation order, each observing the
        same current token — the first token of the construct — and the same context;
    (c) the re-entrant path yields the same tree as the default path (instance of (a) — the result does not
        depend on the interceptor kinds at all);
    (d) `currentExpressionPrecedence` is restored on exit of every parse step;
    (e) announcement: after an error-free parse the trace of interceptor events is the one `Spec/Events` computes
        from the returned tree — every statement and expression slot announced once, in source order
        (`Parse.events`).
  Not modelled in Lean: token interceptors of the lexer (decided by the LEX/PARSE correspondence streams and
  the model-free transparency oracle).
-/
namespace Xjs.C04
open Xjs

/-- (a) for one statement step -/
theorem statement_step_transparent (cfg : PCfg) (is : List SI) (st : PS) (r : Stmt × PS)
    (h : parseStatementI cfg is st = some r) :
    parseStatementI cfg.plain [] st.strip = some (r.1, r.2.strip) :=
  ((plain_mutual cfg).1 is st r h).2

/-- (a)+(c) for one expression step: whatever the kinds of the installed interceptors -/
theorem expression_step_transparent (cfg : PCfg) (is : List EI) (prec : Nat) (st : PS) (r : Expr × PS)
    (h : parseExpressionI cfg is prec st = some r) :
    parseExpressionI cfg.plain [] prec st.strip = some (r.1, r.2.strip) :=
  ((plain_mutual cfg).2.2.2.1 is prec st r h).2

/-- (a) Installing any number of pass-through statement and expression interceptors changes neither the tree
    nor the errors nor the error value nor the final token position. -/
theorem interceptors_are_transparent (cfg : PCfg) (toks : List Token) (r : ParseResult)
    (h : parseProgram cfg toks = some r) :
    ∃ r0, parseProgram cfg.plain toks = some r0 ∧
      r0.prog = r.prog ∧ r0.errors = r.errors ∧ r0.hasErr = r.hasErr ∧ r0.final = r.final.strip := by
  unfold parseProgram at h ⊢
  obtain ⟨⟨stmts, st⟩, h1, h2⟩ := bind_some h
  cases h2
  have : programLoop cfg.plain .nil (PS.init toks) = some (stmts, st.strip) :=
    (Parse.of_run (c := .programLoop .nil) h1).plain.run
  rw [this]
  exact ⟨_, rfl, rfl, rfl, rfl, rfl⟩

/-- (c) two configurations that differ only in their interceptor lists (e.g. observers replaced by re-entrant
    interceptors) give the same tree and errors whenever both return -/
theorem result_independent_of_interceptors (cfg cfg' : PCfg) (hp : cfg.plain = cfg'.plain) (toks : List Token)
    (r r' : ParseResult) (h : parseProgram cfg toks = some r) (h' : parseProgram cfg' toks = some r') :
    r.prog = r'.prog ∧ r.errors = r'.errors := by
  obtain ⟨a, ha, p1, e1, _, _⟩ := interceptors_are_transparent cfg toks r h
  obtain ⟨b, hb, p2, e2, _, _⟩ := interceptors_are_transparent cfg' toks r' h'
  rw [hp] at ha
  rw [ha] at hb
  cases hb
  exact ⟨by rw [← p1, p2], by rw [← e1, e2]⟩

/-- the event a statement interceptor records does not depend on the trace recorded so far -/
theorem event_ignores_trace (st : PS) (t : List Event) (p : Nat) (b : Bool) (id : Nat) :
    ({ st with trace := t, curPrec := p } : PS).event b id = st.event b id := rfl

/-- (b) statement interceptors run once per step, in installation order, all seeing the entry state
    (current token = first token of the statement, same context) -/
theorem statement_interceptors_in_order (cfg : PCfg) (is : List SI) (st : PS) (r : Stmt × PS)
    (h : parseStatementI cfg is st = some r) :
    ∃ rest, r.2.trace = st.trace ++ is.map (fun i => st.event false i.id) ++ rest := by
  induction is generalizing st with
  | nil =>
    obtain ⟨rest, hr⟩ := (steps_parseStatementI h).trace_prefix
    exact ⟨rest, by simp [hr]⟩
  | cons i is ih =>
    rw [parseStatementI] at h
    obtain ⟨rest, hr⟩ := ih _ h
    refine ⟨rest, ?_⟩
    rw [hr]
    simp only [List.map_cons, List.append_assoc, List.cons_append, List.nil_append]
    rfl

/-- (d) the precedence of the enclosing step is restored on exit of every expression step, whatever happens inside -/
theorem precedence_restored (cfg : PCfg) (is : List EI) (prec : Nat) (st : PS) (r : Expr × PS)
    (h : parseExpressionI cfg is prec st = some r) : r.2.curPrec = st.curPrec :=
  (steps_parseExpressionI cfg is prec st r h).curPrec_eq

/-- (b) expression interceptors that call `next()` run once per step, in installation order, all seeing the
    entry state (current token = first token of the expression, same context) -/
theorem expression_observers_in_order (cfg : PCfg) (is : List EI) (hobs : ∀ i ∈ is, i.kind = .observe)
    (prec : Nat) (st : PS) (r : Expr × PS) (h : parseExpressionI cfg is prec st = some r) :
    ∃ rest, r.2.trace = st.trace ++ is.map (fun i => st.event true i.id) ++ rest := by
  induction is generalizing st r with
  | nil =>
    obtain ⟨rest, hr⟩ := (steps_parseExpressionI cfg [] prec st r h).trace_prefix
    exact ⟨rest, by simp [hr]⟩
  | cons i is ih =>
    rw [parseExpressionI] at h
    have hk : i.kind = .observe := hobs i List.mem_cons_self
    simp only [hk] at h
    obtain ⟨⟨e, st1⟩, h1, h2⟩ := bind_some h
    cases h2
    obtain ⟨rest, hr⟩ := ih (fun j hj => hobs j (List.mem_cons_of_mem _ hj)) _ _ h1
    refine ⟨rest, ?_⟩
    simp only at hr ⊢
    rw [hr]
    simp only [List.map_cons, List.append_assoc, List.cons_append, List.nil_append]
    rfl

/-- (b)+(c) a re-entrant interceptor at the head of the chain observes the entry state, then takes over:
    its event is the next one recorded -/
theorem reentrant_interceptor_sees_entry_state (cfg : PCfg) (i : EI) (is : List EI) (hk : i.kind = .reenter)
    (prec : Nat) (st : PS) (r : Expr × PS) (h : parseExpressionI cfg (i :: is) prec st = some r) :
    ∃ rest, r.2.trace = st.trace ++ [st.event true i.id] ++ rest := by
  rw [parseExpressionI] at h
  simp only [hk] at h
  obtain ⟨⟨l, st1⟩, h1, h2⟩ := bind_some h
  obtain ⟨⟨e, st2⟩, h3, h4⟩ := bind_some h2
  cases h4
  have s1 := (steps_of_run (c := .prefix) h1).trace_prefix
  have s2 := (steps_of_run (c := .remaining l st1.curPrec) h3).trace_prefix
  obtain ⟨a, ha⟩ := s1
  obtain ⟨b, hb⟩ := s2
  refine ⟨a ++ b, ?_⟩
  simp only at ha hb ⊢
  rw [← hb, ← ha]
  simp only [List.append_assoc]

/-! Non-vacuity -/
example : ∃ r, parseProgram { stmtI := [⟨1⟩, ⟨2⟩], exprI := [⟨3, .observe⟩, ⟨4, .reenter⟩] } [dummyTok] = some r := by
  refine ⟨{ prog := .nil, errors := [], hasErr := false, final := PS.init [dummyTok] }, ?_⟩
  rw [parseProgram, programLoop]
  simp [PS.init, PS.cur, dummyTok]

/-! ### every parse step is announced, exactly once -/

/-- after an error-free parse the recorded interceptor events are exactly those `Spec/Events` assigns to the returned
    tree: for every statement slot of the tree (an entry of a statement list, a branch, a loop body) one event per
    statement interceptor in installation order, for every expression slot (operand of a prefix or binary operator,
    argument, element, key, value, property, index, condition, initialiser, parenthesised expression, expression
    statement) one event per expression interceptor in installation order up to the first re-entrant one — on the slot's
    first token, in source order, nothing else, nothing twice. For every token list, mode, table and interceptor chain. -/
theorem every_parse_step_is_announced_once (cfg : PCfg) (toks : List Token) (r : ParseResult)
    (h : parseProgram cfg toks = some r) (hok : r.errors = []) :
    r.final.trace = r.prog.stmtsEv cfg.stmtI cfg.exprI [.global] :=
  (trace_is_the_tree's cfg toks r h hok).1

/-! Non-vacuity: one statement `a + b` with one statement observer and one expression observer gives three events -/
example (ta tp tb : Token) :
    (StmtList.cons (.exprS (.binary tp (.ident ⟨ta, ta.lit⟩) tp.lit (.ident ⟨tb, tb.lit⟩))) .nil).stmtsEv [⟨7⟩] [⟨9, .observe⟩] [.global] =
      [mkEv false 7 ta [.global], mkEv true 9 ta [.global], mkEv true 9 tb [.global]] := by
  simp [StmtList.stmtsEv, Stmt.innerEv, Expr.innerEv, stepS, stepE, effE, Stmt.firstTok, Expr.firstTok, tokOf]

end Xjs.C04

#print axioms Xjs.C04.statement_step_transparent
#print axioms Xjs.C04.expression_step_transparent
#print axioms Xjs.C04.interceptors_are_transparent
#print axioms Xjs.C04.result_independent_of_interceptors
#print axioms Xjs.C04.statement_interceptors_in_order
#print axioms Xjs.C04.precedence_restored
#print axioms Xjs.C04.expression_observers_in_order
#print axioms Xjs.C04.reentrant_interceptor_sees_entry_state
#print axioms Xjs.C04.every_parse_step_is_announced_once
