import XjsModel.Proofs.RaTerm
import XjsModel.Proofs.LexPrintAll
import XjsModel.Proofs.LexPrintSane
import XjsModel.Proofs.LexPrintRound
import XjsModel.Props.TableObligations
/-
  C03 — Printed code parses back to the tree it was printed from.

  Quantifier of the theorems: ALL trees of the language — expressions (atoms, explicit parentheses, the four prefix
  operators, the thirteen binary operators, the two postfix operators, calls, member access (dot and computed),
  assignment and the two compound assignments, array literals, object literals, function expressions) and statements
  (expression statements, `let` with and without initialiser, `return` with and without value, `if` with and without
  `else`, `while`, `for` with any combination of clauses, blocks, function declarations), whole programs — of any depth
  and in any combination, whether the tree came from the parser or was assembled programmatically; parser in any mode
  (smart-semicolon mode: `(` / `[` of a call / index not first on its line), with the built-in tables.
  The restrictions on the shape (`wf`) are exactly the three known findings of this property plus ECMAScript's
  LeftHandSideExpression positions: callee, object and assignment target are call-level-or-tighter expressions; an
  expression statement does not start with `{` or `function` (finding stmt-start-object-or-function); the then-branch
  of an `if` with `else` does not end in an `if` without `else` (finding dangling-else).

  Proved here (`RA.main`, `RA.stmtMain`, `RA.program_round_trip`: the Pratt invariant for expressions, its statement
  counterpart, and the statement loops, by structural recursion over the seven mutually inductive spec-tree types):
    the token sequence the printer emits for a tree (`toks`: operands parenthesised by the printer's four precedence
    tests; `;` after expression, `let` and `return` statements; no separator after `}`) is parsed back to exactly that
    tree, the printer's parentheses appearing as grouping nodes (`tree`), without any error; for expressions the cursor
    stops on the last token.
  Tie to the code: the printer's and the parser's precedence tables are re-extracted from /repo on every run and
  compared by `decide` (TableObligations); `parenLeft … parenPostfix` are the comparisons of ast.go.
  Proved here too (`LP.compact_text_lexes`, `Proofs/LexPrint*.lean`): the BYTES the compact printer writes for such a tree
  lex to exactly `toks` (type and literal of every token, then end of input) — no token fusion (the class of the
  repaired defects ebb5d69, aca1392), for every tree whose tokens are lexically sane (`LP.saneB`: operators, delimiters
  and keywords carry their spelling, identifiers are identifiers, number / string / backtick literals re-lex as
  themselves — decidable sufficient conditions: `numOk_decimal`, `numOk_fraction`, `strOk_plain`, `rawOk_plain`; the property name of a
  member access does not start with a digit). The writer invariant `LP.WInv` carries a FOLLOW predicate (what may stand
  behind the text written so far without being drawn into its last token) and the fact that a sign which the predicate
  rejects is the last byte written, which is what `separateSigns` tests.
  The re-lexed tokens carry no line break and no comment (`compact_text_lexes_to_quiet_tokens`), parsing commutes with
  erasing token positions (`parsing_ignores_positions`, the theorem about token maps `Parse.mapTok` at the erasure), and so the end-to-end
  statement holds: `compact_text_parses_back_to_the_tree`.
  Not proved: pretty mode (incl. `WithSemi(false)`), trees outside `wf`. Those are decided by the
  correspondence run (PRINTT stream: programmatic trees, exhaustive parent/child pairs) and the model-free re-parse oracle.
  Known findings there: stmt-start-object-or-function, dangling-else, printer-paren-function-indent, trim-in-literal.
-/
namespace Xjs.C03
open Xjs Xjs.RA

/-- PRINT → PARSE: for every such tree, parsing the printer's token sequence (followed by anything
    that cannot continue an expression, e.g. `;`, `)`, `,`, end of input) returns exactly that tree. -/
theorem printed_tokens_parse_back (cfg : PCfg) (hc : BaseCfg cfg) (s : SE) (hw : s.wf = true) (hterm : s.term = true)
    (st : PS) (rest : List Token) (hr : rest ≠ []) (ht : st.toks = s.toks ++ rest) (hstop : stops cfg LOWEST rest) :
    parseExpressionI cfg [] LOWEST st = some (s.tree, nextK (s.toks.length - 1) st) :=
  print_then_parse (tol := false) (sm := false) hc (fun h => by cases h) (fun h => by cases h) s hw (lay_of_term false false s hw hterm) LOWEST st rest hr ht
    (fits_lowest s hw) (stops_mono hstop (rbl_ge_one s hw)) hstop

/-- PRINT → PARSE for statements: any well-formed statement, followed by anything that is not an `else` after an open
    `if`, parses back to the statement; the cursor stops on its last token -/
theorem printed_statement_parses_back (cfg : PCfg) (hc : BaseCfg cfg) (s : SS) (hw : s.wf = true) (hterm : s.term = true)
    (st : PS) (rest : List Token) (hr : rest ≠ []) (ht : st.toks = s.toks ++ rest)
    (hopen : s.openIf = true → (rest.headD semiT).type ≠ .else_) :
    parseStatementI cfg cfg.stmtI st = some (s.tree, nextK (s.toks.length - 1) st) :=
  stmtMain (tol := false) (sm := false) hc (fun h => by cases h) (fun h => by cases h) s hw (layS_of_term false false s hw hterm)
    st rest hr ht (follow_of_term false false s hterm _ hopen)

/-- PRINT → PARSE for whole programs, every mode: the printed tokens of any well-formed program tree (every statement
    terminator written, as the compact printer does) parse to that tree without any error -/
theorem printed_program_parses_back (cfg : PCfg) (hc : BaseCfg cfg) (prog : SSList) (hw : prog.wf = true)
    (hterm : prog.term = true) (eofTok : Token) (he : eofTok.type = .eof) :
    ∃ r, parseProgram cfg (prog.toks ++ [eofTok]) = some r ∧ r.prog = prog.tree ∧ r.errors = [] ∧ r.hasErr = false :=
  printed_program_round_trip hc prog hw hterm eofTok he

/-- PRINT → LEX: the text the compiler emits in compact mode (any indent / semicolon setting, with or without a source
    map) for a well-formed program tree with lexically sane tokens is read by the lexer as exactly the printed token
    sequence `toks` — the same type and literal, token by token — followed by end of input -/
theorem compact_text_lexes_to_printed_tokens (ccfg : CompCfg) (hc : ccfg.pretty = false) (prog : SSList) (hw : prog.wf = true)
    (hterm : prog.term = true) (hs : LP.saneB prog) :
    (lexAll (compile ccfg prog.tree).code).map LP.keyOf = prog.toks.map LP.keyOf ++ [(.eof, [])] :=
  LP.compact_text_lexes ccfg hc prog hw hterm hs

/-- … and everything else the parser can see of the re-lexed tokens, positions apart: none of them stands after a line
    break, none carries a comment (`keyOf4` = type, literal, after-newline flag, leading comments) -/
theorem compact_text_lexes_to_quiet_tokens (ccfg : CompCfg) (hc : ccfg.pretty = false) (prog : SSList) (hw : prog.wf = true)
    (hterm : prog.term = true) (hs : LP.saneB prog) :
    (lexAll (compile ccfg prog.tree).code).map LP.keyOf4 = prog.toks.map LP.quietKey ++ [LP.eofKey] :=
  LP.compact_text_lexes4 ccfg hc prog hw hterm hs

/-- PRINT → LEX for one expression in any context: whatever was written before (`WInv`: compact mode, nothing pending,
    the text so far lexes to `ks` in front of anything the follow predicate `fc` admits, and `fc` admits everything an
    expression can start with), the text of the expression adds exactly its tokens, and anything that may follow a
    number may follow it -/
theorem expression_text_lexes (s : SE) (hw : s.wf = true) (hterm : s.term = true) (hs : LP.saneE s) (cw : CW) (ks : List LP.Key)
    (fc : Bytes → Bool) (h : LP.WInv cw ks fc) (hst : LP.StartOK fc) :
    ∃ fc', LP.WInv (writeExpr s.tree cw) (ks ++ s.toks.map LP.keyOf) fc' ∧ LP.EndOK fc' :=
  LP.lexE s hw hterm hs h hst

/-- the sign-separation rule: in front of a prefix `-`, `--`, `++` the writer puts a blank exactly when the byte
    written last is the same sign; afterwards the operator can be written without fusing with what precedes it -/
theorem separate_signs_is_enough (cw : CW) (ks : List LP.Key) (fc : Bytes → Bool) (h : LP.WInv cw ks fc) (hst : LP.StartOK fc)
    (c : Nat) (w : Bytes) (hc : c = 43 ∨ c = 45) :
    ∃ fc1, LP.WInv (cw.separateSigns (c :: w)) ks fc1 ∧ (∀ r, fc1 (c :: r) = true) ∧ LP.StartOK fc1 :=
  LP.sep_lex h hst c w hc

/-- PRINT → LEX → PARSE, compact mode, end to end: for every well-formed program tree with lexically sane tokens that
    carry no line-break flags / comments (programmatic trees; a parsed tree after erasing its trivia; positions are
    arbitrary), in each of the four parser modes and for every compact option set: the parser, run on the TEXT the compiler
    emits, returns — without any error — a tree that equals the original one up to the positions of its tokens
    (`stmtListZ` sets every position to zero).
    (`compact_text_lexes4` ∘ `Pos.pos_parseProgram`: parsing commutes with erasing positions ∘ `printed_program_round_trip`,
    and the parser terminates.) -/
theorem compact_text_parses_back_to_the_tree (tolerant smart : Bool) (ccfg : CompCfg) (hc : ccfg.pretty = false) (prog : SSList)
    (hw : prog.wf = true) (hterm : prog.term = true) (hs : LP.saneB prog) (hn : ∀ t ∈ prog.toks, LP.quietTok t) :
    ∃ r, parseSource { tolerant := tolerant, smart := smart } (compile ccfg prog.tree).code = some r ∧
      Pos.stmtListZ r.prog = Pos.stmtListZ prog.tree ∧ r.errors = [] ∧ r.hasErr = false :=
  LP.compact_round_trip tolerant smart ccfg hc prog hw hterm hs hn

/-- parsing commutes with erasing token positions: the parser reads of a token only its type, literal and after-newline
    flag; positions are copied into the tree, the error ranges and the trace -/
theorem parsing_ignores_positions (cfg : PCfg) (toks : List Token) (r : ParseResult) (h : parseProgram cfg toks = some r) :
    parseProgram cfg (toks.map Pos.tokZ) =
      some { prog := Pos.stmtListZ r.prog, errors := r.errors.map Pos.errZ, hasErr := r.hasErr, final := Pos.psZ r.final } :=
  Pos.pos_parseProgram toks r h

/-- for trees that come out of the parser the spelling part of the sanity hypothesis is automatic: whatever the lexer
    returns for a type with a fixed spelling (operators, delimiters, keywords) carries that spelling, and an IDENT token is
    a letter followed by letters and digits and no keyword — from any cursor, on any input -/
theorem tokens_from_the_lexer_are_spelled (s : LS) :
    (LP.canon (nextToken s).1.type ≠ [] → (nextToken s).1.lit = LP.canon (nextToken s).1.type) ∧
    ((nextToken s).1.type = .ident → LP.identOk (nextToken s).1.lit = true) :=
  LP.nextToken_sane s

/-- tie of the spelling table `LP.canon` to the Go source: every entry of the lexer's operator / delimiter dispatch
    (re-extracted on every run) other than ILLEGAL spells its token as `canon` says, and every operator / delimiter type
    of `canon` has an entry -/
theorem spelling_table_is_lexer_dispatch :
    (∀ e ∈ Gen.lexerDispatch, e.2.2 ≠ 0 → LP.canon (TokType.ofNat e.2.2) = (if e.2.1 = 0 then [e.1] else [e.1, e.2.1])) ∧
    (∀ t ∈ TokType.builtins, LP.canon t ≠ [] → isLetter ((LP.canon t).headD 0) = false →
      Gen.lexerDispatch.any (fun e => e.2.2 == t.toNat) = true) := by decide

/-- sufficient, decidable conditions for the literal hypotheses -/
theorem literal_sanity_conditions :
    (∀ w, LP.decimalLit w = true → LP.numOk w .int) ∧
    (∀ d1 d2, LP.fractionLit d1 d2 = true → LP.numOk (d1 ++ 46 :: d2) .float) ∧
    (∀ v, LP.plainStr v = true → LP.strOk v) ∧ (∀ v, LP.plainRaw v = true → LP.rawOk v) :=
  ⟨LP.numOk_decimal, LP.numOk_fraction, LP.strOk_plain, LP.rawOk_plain⟩

/-- the modes the theorems cover: the four combinations of strict / tolerant and smart semicolons -/
theorem all_modes_are_base (tolerant smart : Bool) : BaseCfg { tolerant := tolerant, smart := smart } :=
  ⟨rfl, rfl, rfl, rfl, rfl⟩

/-- the printer's four parenthesisation tests, on the tree, are the ones `SE.toks` uses -/
theorem printer_tests (t : Token) (l r : SE) :
    (decide (l.tree.prec < operatorPrecedence t.type) = parenLeft (operatorPrecedence t.type) l) ∧
    (decide (r.tree.prec ≤ operatorPrecedence t.type) = parenRight (operatorPrecedence t.type) r) ∧
    (decide (r.tree.prec < precUnary) = parenUnary r) ∧
    (decide (l.tree.prec < precPostfix) = parenPostfix l) := by
  simp only [LP.prec_tree, parenLeft, parenRight, parenUnary, parenPostfix, and_self]

/-- tie: the printer's precedence table equals the parser's binding-power table on every operator token
    (re-extracted from /repo on every run) -/
theorem tables_agree :
    ∀ kv ∈ Gen.precedences, ((Gen.operatorPrecedence.find? (fun x => x.1 == kv.1)).map (·.2)).getD Gen.operatorPrecedenceDefault = kv.2 :=
  Tables.printer_precedence_eq_parser_binding_power

/-! Non-vacuity: `(a + b) * -c` as a programmatic tree: `*` over `+` forces parentheses on the left -/
private def tk (ty : TokType) (lit : Bytes) : Token := { type := ty, lit := lit, sl := 0, sc := 0, el := 0, ec := 0 }
private def demo : SE :=
  .bin (tk .multiply [42]) (.bin (tk .plus [43]) (.atom (tk .ident [97])) (.atom (tk .ident [98])))
    (.un (tk .minus [45]) (.atom (tk .ident [99])))
example : demo.wf = true := by decide
example : demo.toks.map (·.type) = [.lparen, .ident, .plus, .ident, .rparen, .multiply, .minus, .ident] := by decide
/-- `x = f(a, b)[c].d += [a]` -/
private def demo2 : SE :=
  .asg (tk .assign [61]) (.atom (tk .ident [120]))
    (.casg (tk .plusAssign [43, 61])
      (.dot (tk .dot [46]) (.idx (tk .lbracket [91])
        (.call (tk .lparen [40]) (.atom (tk .ident [102])) (.cons (.atom (tk .ident [97])) (.cons (.atom (tk .ident [98])) .nil)))
        (.atom (tk .ident [99]))) (tk .ident [100]))
      (.arr (tk .lbracket [91]) (.cons (.atom (tk .ident [97])) .nil)))
example : demo2.wf = true := by decide
example : demo2.toks.map (·.type) = [.ident, .assign, .ident, .lparen, .ident, .comma, .ident, .rparen, .lbracket, .ident,
    .rbracket, .dot, .ident, .plusAssign, .lbracket, .ident, .rbracket] := by decide

/-- `function f(a) { if (a) return a; else { let x = [a]; } }  f(1);` as a programmatic tree -/
private def prog : SSList :=
  .cons (.funcD (tk .function [102]) (tk .ident [102]) [tk .ident [97]]
    (.cons (.ifElse (tk .if_ [105, 102]) (.atom (tk .ident [97])) (.ret (tk .return_ [114]) (.atom (tk .ident [97])) true) (tk .else_ [101])
      (.block (.cons (.letS (tk .let_ [108]) (tk .ident [120]) (.arr (tk .lbracket [91]) (.cons (.atom (tk .ident [97])) .nil)) true) .nil))) .nil))
  (.cons (.exprS (.call (tk .lparen [40]) (.atom (tk .ident [102])) (.cons (.atom (tk .int [49])) .nil)) true) .nil)
example : prog.wf = true ∧ prog.term = true := by decide
example : prog.toks.map (·.type) = [.function, .ident, .lparen, .ident, .rparen, .lbrace, .if_, .lparen, .ident, .rparen,
    .return_, .ident, .semicolon, .else_, .lbrace, .let_, .ident, .assign, .lbracket, .ident, .rbracket, .semicolon, .rbrace,
    .rbrace, .ident, .lparen, .int, .rparen, .semicolon] := by decide

/-! Non-vacuity of the byte-level theorem: `let x = 1; x = x - -x;` with properly spelled tokens -/
private def kw (ty : TokType) : Token := tk ty (LP.canon ty)
private def xT : Token := tk .ident [120]
private def prog2 : SSList :=
  .cons (.letS (kw .let_) xT (.atom (tk .int [49])) true)
  (.cons (.exprS (.asg (kw .assign) (.atom xT) (.bin (kw .minus) (.atom xT) (.un (kw .minus) (.atom xT)))) true) .nil)
example : prog2.wf = true ∧ prog2.term = true := by decide
example : LP.saneB prog2 := by
  have hx : LP.tokOk xT := by show LP.identOk [120] = true; decide
  have h1 : LP.tokOk (tk .int [49]) := LP.numOk_decimal [49] (by decide)
  exact ⟨⟨⟨by decide, rfl⟩, hx, h1⟩, ⟨⟨by decide, rfl⟩, hx, ⟨by decide, rfl⟩, hx, ⟨by decide, rfl⟩, hx⟩, trivial⟩
example : ∀ t ∈ prog2.toks, LP.quietTok t := by decide
/-- the text is `let x=1;x=x- -x;` (the blank keeps the two signs apart) -/
example : (compile {} prog2.tree).code = [108, 101, 116, 32, 120, 61, 49, 59, 120, 61, 120, 45, 32, 45, 120, 59] := by decide +kernel

end Xjs.C03

#print axioms Xjs.C03.compact_text_lexes_to_printed_tokens
#print axioms Xjs.C03.compact_text_lexes_to_quiet_tokens
#print axioms Xjs.C03.compact_text_parses_back_to_the_tree
#print axioms Xjs.C03.parsing_ignores_positions
#print axioms Xjs.C03.expression_text_lexes
#print axioms Xjs.C03.separate_signs_is_enough
#print axioms Xjs.C03.tokens_from_the_lexer_are_spelled
#print axioms Xjs.C03.spelling_table_is_lexer_dispatch
#print axioms Xjs.C03.literal_sanity_conditions
#print axioms Xjs.C03.printed_tokens_parse_back
#print axioms Xjs.C03.printed_statement_parses_back
#print axioms Xjs.C03.printed_program_parses_back
#print axioms Xjs.C03.all_modes_are_base
#print axioms Xjs.C03.printer_tests
#print axioms Xjs.C03.tables_agree
