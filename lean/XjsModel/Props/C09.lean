import XjsModel.Proofs.SourceMap
/-
  C09 — Mapping encoding conforms to Source Map v3.

  Quantifier: all finite operation sequences over the public builder API
  (`AddMapping`, `AddNamedMapping`, `AdvanceColumn`, `AdvanceString`, `AdvanceLine`) with arbitrary
  (also negative / decreasing / large) positions and names; every integer for the VLQ codec.
  Model: `XjsModel/Model/SourceMap.lean`. Specification: `XjsModel/Spec/SourceMapV3.lean`.
-/
namespace Xjs.C09
open Xjs Xjs.Spec

/-- (e) VLQ codec: the spec decoder inverts the encoder for EVERY integer, whatever follows -/
theorem vlq_roundtrip (n : Int) (rest : Bytes) : decVlq (encodeVLQ n ++ rest) = some (n, rest) :=
  decVlq_encodeVLQ n rest

/-- (e) only Base64 digits are emitted, and never an empty string -/
theorem vlq_alphabet (n : Int) : encodeVLQ n ≠ [] ∧ ∀ c ∈ encodeVLQ n, (b64val c).isSome :=
  ⟨encodeVLQ_ne_nil n, encodeVLQ_alphabet n⟩

/-- (a) the `mappings` string of ANY operation history decodes, by the Source Map v3 rules, to exactly
    the recorded absolute mappings (source index 0) -/
theorem mappings_decode (ops : List MapOp) :
    decodeMappings (Mapper.run ops).sourceMap.mappings
      = some ((Mapper.run ops).mappings.map Mapping.toSeg) := by
  unfold decodeMappings Mapper.sourceMap encodeMappings
  exact decode_encodeFrom _ {} (fun mp hmp => ((mapperInv_run ops).2.1 mp hmp).1) (mapperInv_run ops).2.2

/-- (b) version 3 -/
theorem version (ops : List MapOp) : (Mapper.run ops).sourceMap.version = 3 := rfl

/-- (c) position tracking: advancing over a string moves the generated position as the counting
    specification says (LF, CR LF and CR each one line break) -/
theorem position_advanceString (m : Mapper) (s : Bytes) :
    ((m.advanceString s).genLine, (m.advanceString s).genCol) = positionAfter s (m.genLine, m.genCol) := by
  simp only [Mapper.advanceString]
  exact advanceBytes_spec s _

/-- (c) a recorded mapping carries the generated position current at that moment -/
theorem mapping_records_position (m : Mapper) (sl sc : Int) :
    (m.addMapping sl sc).mappings = m.mappings ++ [{ genLine := m.genLine, genCol := m.genCol, srcLine := sl, srcCol := sc }] :=
  rfl

/-- (d) names are deduplicated: the names array never contains a name twice -/
theorem names_nodup (ops : List MapOp) : (Mapper.run ops).names.Nodup := by
  refine List.foldlRecOn (motive := fun m => m.names.Nodup) (b := Mapper.new) ops Mapper.step List.nodup_nil
    fun m hm op _ => ?_
  rcases m.step_names op with h | ⟨n, hn, h⟩
  · rwa [h]
  · rw [h, List.nodup_append]
    exact ⟨hm, by simp, fun a ha b hb e => hn (by rw [List.mem_singleton.1 hb] at e; exact e ▸ ha)⟩

/-- (d) a named mapping gets an index at which its name is stored, and that index is the FIRST
    occurrence of the name -/
theorem named_index (m : Mapper) (sl sc : Int) (name : Bytes) :
    ∃ i, ((m.addNamedMapping sl sc name).mappings.getLast?.bind (·.name)) = some i ∧
         (m.addNamedMapping sl sc name).names[i]? = some name ∧
         ∀ j, j < i → (m.addNamedMapping sl sc name).names[j]? ≠ some name :=
  addNamedMapping_index m sl sc name

/-- (d) indices are stable: later operations only append to `names` -/
theorem names_stable (ops more : List MapOp) :
    (Mapper.run ops).names <+: (Mapper.run (ops ++ more)).names := by
  unfold Mapper.run
  rw [List.foldl_append]
  generalize ops.foldl Mapper.step Mapper.new = m₀
  refine List.foldlRecOn (motive := fun m => m₀.names <+: m.names) more Mapper.step (List.prefix_refl _)
    fun m hm op _ => hm.trans ?_
  rcases m.step_names op with h | ⟨n, _, h⟩
  · rw [h]
    exact List.prefix_refl _
  · rw [h]
    exact List.prefix_append _ _

/-! Non-vacuity: concrete histories (decreasing source positions, negative columns, CR/LF mixes, repeated names) -/

example : decodeMappings (Mapper.run [.map 3 7, .advCol 4, .named 1 2 [97], .advStr [97, 13, 10, 98], .advLine,
      .map 0 0, .advCol (-2), .named 9 9 [97], .named 5 5 [98]]).sourceMap.mappings
    = some [{ genLine := 0, genCol := 0, source := some (0, 3, 7) },
            { genLine := 0, genCol := 4, source := some (0, 1, 2), name := some 0 },
            { genLine := 2, genCol := 0, source := some (0, 0, 0) },
            { genLine := 2, genCol := -2, source := some (0, 9, 9), name := some 0 },
            { genLine := 2, genCol := -2, source := some (0, 5, 5), name := some 1 }] :=
  mappings_decode _

example : positionAfter [97, 13, 10, 98, 13, 99, 10, 10, 100] (0, 5) = (4, 1) := by decide

end Xjs.C09

#print axioms Xjs.C09.vlq_roundtrip
#print axioms Xjs.C09.vlq_alphabet
#print axioms Xjs.C09.mappings_decode
#print axioms Xjs.C09.version
#print axioms Xjs.C09.position_advanceString
#print axioms Xjs.C09.mapping_records_position
#print axioms Xjs.C09.names_nodup
#print axioms Xjs.C09.named_index
#print axioms Xjs.C09.names_stable
