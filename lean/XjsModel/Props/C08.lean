import XjsModel.Proofs.PrinterPosTree
import XjsModel.Proofs.SourceMap
/-
  C08 — Source map segments link identical lexemes.

  Quantifier: ALL trees (parsed or programmatic) whose written strings contain no CR byte; compact output
  with a source map (`compactMapped`: no indentation, no semicolons).

  Proved here (writer invariant `PosInv`, preserved by every printer — structural recursion over the tree):
    (a) every recorded mapping carries as generated position the line/column — in the sense of the counting
        specification `Spec.positionAfter`: line = number of line breaks, column = bytes after the last one — of a
        prefix of the emitted code, namely the code emitted before the token the mapping belongs to (each printer
        records the mapping immediately before it writes the token);
    (d) the recorded mappings are ordered by generated position, and none points beyond the end of the code;
    (c, by construction) an identifier is written only by `writeIdent`, which records a NAMED mapping carrying the
        identifier immediately before writing it (`identifier_is_named`).
  That the `mappings` string decodes to exactly the recorded mappings is C09. That the SOURCE position of a mapping is
  the start of the same lexeme is C10 (token starts) plus the parser storing tokens unchanged (correspondence).
  NOT true of the code and therefore not provable: pretty-printed output (known finding D12: pending whitespace,
  indentation, comments and the final trim bypass the mapper) — decided there by the model-free oracle, which
  reports the class `pretty-map`.
-/
namespace Xjs.C08
open Xjs Xjs.Spec

def compactMapped : CompCfg := { pretty := false, sourceMap := true }

theorem posInv_init : PosInv { pretty := false, indentString := [], semis := false, mapper := some Mapper.new } :=
  ⟨rfl, rfl, by intro c hc; simp at hc,
   by intro m hm; simp only [Option.some.injEq] at hm; subst hm; simp [Mapper.new, advanceBytes],
   by intro m hm mp hmp; simp only [Option.some.injEq] at hm; subst hm; simp [Mapper.new] at hmp,
   by intro m hm; simp only [Option.some.injEq] at hm; subst hm; exact ⟨by simp [Mapper.new], by simp [Mapper.new]⟩⟩

/-- the compact compilation with a source map is what the writer holds at the end, and that writer satisfies `PosInv` -/
theorem compile_compactMapped (prog : StmtList) (hcr : prog.nocr = true) :
    ∃ cw, PosInv cw ∧ (compile compactMapped prog).code = cw.out ∧
      (compile compactMapped prog).mappings = (cw.mapper.map (·.mappings)).getD [] :=
  ⟨_, pos_writeProgramStmts prog true _ hcr posInv_init, rfl, rfl⟩

/-- (a) generated positions are positions of prefixes of the code, by the counting specification -/
theorem generated_positions_are_code_positions (prog : StmtList) (hcr : prog.nocr = true) :
    ∀ mp ∈ (compile compactMapped prog).mappings,
      ∃ pre, pre <+: (compile compactMapped prog).code ∧ (mp.genLine, mp.genCol) = positionAfter pre (0, 0) := by
  obtain ⟨cw, hi, hcode, hmaps⟩ := compile_compactMapped prog hcr
  rw [hcode, hmaps]
  intro mp hmp
  cases hm : cw.mapper with
  | none => simp [hm] at hmp
  | some m =>
    simp only [hm, Option.map_some, Option.getD_some] at hmp
    obtain ⟨pre, hp, he⟩ := hi.maps m hm mp hmp
    exact ⟨pre, hp, by rw [he, advanceBytes_spec]⟩

/-- (d) the segments are ordered by generated position -/
theorem mappings_ordered_by_generated_position (prog : StmtList) (hcr : prog.nocr = true) :
    (compile compactMapped prog).mappings.Pairwise (fun a b => le2 a.gpos b.gpos) := by
  obtain ⟨cw, hi, _, hmaps⟩ := compile_compactMapped prog hcr
  rw [hmaps]
  cases hm : cw.mapper with
  | none => simp
  | some m => simpa using (hi.sorted m hm).1

/-- (c) the only printer that writes an identifier records a named mapping carrying it, then writes it -/
theorem identifier_is_named (id : Ident) (cw : CW) :
    writeIdent id cw = ((cw.leadingComments id.tok.comments).addNamedMapping id.tok.sl id.tok.sc id.value).writeString id.value := rfl

/-- the name index recorded for an identifier resolves to that identifier (first-seen interning) -/
theorem named_mapping_resolves (m : Mapper) (sl sc : Int) (name : Bytes) :
    ∃ i, ((m.addNamedMapping sl sc name).mappings.getLast?.bind (·.name)) = some i ∧
         (m.addNamedMapping sl sc name).names[i]? = some name :=
  let ⟨i, h1, h2, _⟩ := addNamedMapping_index m sl sc name
  ⟨i, h1, h2⟩

/-! Non-vacuity: `a=1;` — three mappings at columns 0, 1, 2 -/
private def demo : StmtList :=
  .cons (.exprS (.assign { type := .assign, lit := [61], sl := 0, sc := 2, el := 0, ec := 2 }
    (.ident { tok := { type := .ident, lit := [97], sl := 0, sc := 0, el := 0, ec := 1 }, value := [97] })
    (.int { type := .int, lit := [49], sl := 0, sc := 4, el := 0, ec := 5 }))) .nil
example : demo.nocr = true := by decide
example : (compile compactMapped demo).code = [97, 61, 49, 59] ∧
    (compile compactMapped demo).mappings.map (fun m => (m.genLine, m.genCol, m.srcCol)) = [(0, 0, 0), (0, 1, 2), (0, 2, 4)] := by decide

end Xjs.C08

#print axioms Xjs.C08.generated_positions_are_code_positions
#print axioms Xjs.C08.mappings_ordered_by_generated_position
#print axioms Xjs.C08.identifier_is_named
#print axioms Xjs.C08.named_mapping_resolves
