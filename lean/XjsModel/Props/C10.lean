import XjsModel.Proofs.LexerTiling
import XjsModel.Proofs.LexerTrivia
/-
  C10 — Lexing is total and tokens tile the source with exact positions.

  Quantifier: ALL byte strings (any values, any length). Model: `XjsModel/Model/Lexer.lean`
  (`lexAll`, `nextToken`, `readChar`). Specification of positions: `lc src off` = line/column obtained by
  counting line feeds in `src[0, off)` (0-based line, byte column).

  `token_step` is the whole property for ONE request of a token from any cursor that agrees with the source, and
  `requests_agree_with_source` shows that every request `lexAll` makes is from such a cursor, each starting where the
  previous token ended: gap (whitespace and `//` comments only, `Tiling.TriviaRun`, a trusted 4-rule specification),
  after-newline flag = "the gap contains a line feed", start position = position of the first byte, end position on
  or immediately after the last byte and inside the source, identifier / keyword / number literals = the source
  slice, keywords classified by the (re-extracted) keyword table.
-/
namespace Xjs.C10
open Xjs

/-- Totality: for every input, within `length + 1` requests the lexer delivers an end-of-input token,
    and no token before it is an end-of-input token. (The model cannot panic: it has no partial operation.) -/
theorem lexGo_total (fuel : Nat) (s : LS) (h : s.rest.length < fuel) :
    ∃ ts e, lexGo fuel s = ts ++ [e] ∧ e.type = .eof ∧ ∀ t ∈ ts, t.type ≠ .eof := by
  induction fuel generalizing s with
  | zero => omega
  | succ fuel ih =>
    simp only [lexGo]
    by_cases he : (nextToken s).1.type = .eof
    · refine ⟨[], (nextToken s).1, by simp [he], he, by simp⟩
    · have hp := nextToken_progress s he
      obtain ⟨ts, e, h1, h2, h3⟩ := ih (nextToken s).2 (by omega)
      refine ⟨(nextToken s).1 :: ts, e, by simp [he, h1], h2, ?_⟩
      intro t ht
      simp only [List.mem_cons] at ht
      rcases ht with rfl | ht
      · exact he
      · exact h3 t ht

theorem lexAll_total (src : Bytes) :
    ∃ ts e, lexAll src = ts ++ [e] ∧ e.type = .eof ∧ ∀ t ∈ ts, t.type ≠ .eof :=
  lexGo_total _ _ (by simp [LS.init])

/-- the instrumented list is the token list -/
theorem instrumented_tokens (src : Bytes) : (lexGoO (src.length + 1) (LS.init src)).map (·.1) = lexAll src :=
  lexGoO_tokens _ _

/-- end of input, however often requested: once the cursor is at the end every further request returns
    an EOF token at the position of the end of the source and leaves the cursor where it is -/
theorem eof_sticky (src : Bytes) (s : LS) (hi : LInv src s) (hend : s.rest = []) :
    (nextToken s).2 = s ∧ (nextToken s).1.type = .eof ∧
    ((nextToken s).1.sl, (nextToken s).1.sc) = lc src src.length ∧
    ((nextToken s).1.el, (nextToken s).1.ec) = lc src src.length := by
  rw [nextToken_at_end s hend]
  have hoff : s.off = src.length := by
    have h := hi.rest_eq
    rw [hend] at h
    have := List.drop_eq_nil_iff.mp h.symm
    have := hi.off_le
    omega
  refine ⟨rfl, rfl, ?_, ?_⟩ <;> simp only [mkTok] <;> rw [← hoff] <;> exact hi.pos_eq

/-- EOF tokens arise only at the real end of the input (a NUL byte is not the end) -/
theorem eof_only_at_end (s : LS) (h : (nextToken s).1.type = .eof) : (readChars (trivia s.rest).len s).rest = [] :=
  baseNextToken_eof_only_at_end _ _ _ h

/-- (a, continued) consumption: every token other than EOF consumes at least one byte -/
theorem progress (s : LS) (h : (nextToken s).1.type ≠ .eof) : (nextToken s).2.rest.length < s.rest.length :=
  nextToken_progress s h


/-- the bytes of the source from offset `a` up to offset `b` -/
def slice (src : Bytes) (a b : Nat) : Bytes := (src.drop a).take (b - a)

/-- where the token starts: the cursor offset plus what `readLeadingComments` skips -/
def gapEnd (s : LS) : Nat := s.off + (trivia s.rest).len

/-- the cursor after the gap stands at `gapEnd` -/
theorem gapEnd_off (s : LS) : (readChars (trivia s.rest).len s).off = gapEnd s := by
  rw [readChars_off, Nat.min_eq_left (Tiling.gap_is_trivia s).1]; rfl

/-- ONE TOKEN REQUEST from a cursor that agrees with the source (offset `s.off`): with `g = gapEnd s` the end of the gap
    and `eo` the cursor offset afterwards,
    * the gap `[s.off, g)` is a run of whitespace and `//` comments inside the source, and the token's
      after-newline flag is set exactly when the gap contains a line feed;
    * the token starts at the line/column of `g`; the cursor afterwards (`eo`) satisfies `g ≤ eo ≤ length` and
      again agrees with the source — the next request starts at `eo`: nothing is skipped or read twice;
    * the token's end is the line/column of an offset `x` with `g ≤ x ≤ eo ≤ x + 1`: on or immediately after its last
      byte, inside the source;
    * identifier, keyword and number tokens carry exactly `src[g, eo)`, and identifier / keyword tokens are classified
      by the keyword table applied to that text. -/
theorem token_step (src : Bytes) (s : LS) (hi : LInv src s) :
    gapEnd s ≤ src.length ∧ Tiling.TriviaRun (slice src s.off (gapEnd s)) ∧
    (nextToken s).1.nl = (slice src s.off (gapEnd s)).contains 10 ∧
    ((nextToken s).1.sl, (nextToken s).1.sc) = lc src (gapEnd s) ∧
    gapEnd s ≤ (nextToken s).2.off ∧ (nextToken s).2.off ≤ src.length ∧ LInv src (nextToken s).2 ∧
    (∃ x, ((nextToken s).1.el, (nextToken s).1.ec) = lc src x ∧ gapEnd s ≤ x ∧ x ≤ (nextToken s).2.off ∧
      (nextToken s).2.off ≤ x + 1) ∧
    ((nextToken s).1.type ∈ Tiling.sliceTypes → (nextToken s).1.lit = slice src (gapEnd s) (nextToken s).2.off) ∧
    ((nextToken s).1.type ∈ Tiling.wordTypes → (nextToken s).1.type = lookupIdent (nextToken s).1.lit) := by
  obtain ⟨hk, hrun, hnl⟩ := Tiling.gap_is_trivia s
  -- `s1`: the cursor after the gap, where `baseNextToken` starts; `r0`: what it returns
  have hi1 : LInv src (readChars (trivia s.rest).len s) := readChars_inv src _ s hi
  have hnt : nextToken s = baseNextToken (trivia s.rest).nl (trivia s.rest).comments (readChars (trivia s.rest).len s) := rfl
  have hstart := baseNextToken_start (trivia s.rest).nl (trivia s.rest).comments (readChars (trivia s.rest).len s)
  have hr2 := baseNextToken_reach (trivia s.rest).nl (trivia s.rest).comments (readChars (trivia s.rest).len s)
  obtain ⟨e, hre, hepos, hecur⟩ := Tiling.end_is_cursor (trivia s.rest).nl (trivia s.rest).comments (readChars (trivia s.rest).len s)
  have hlit := Tiling.literal_is_slice (trivia s.rest).nl (trivia s.rest).comments (readChars (trivia s.rest).len s)
  have hword := Tiling.word_is_classified (trivia s.rest).nl (trivia s.rest).comments (readChars (trivia s.rest).len s)
  have hslice : slice src s.off (gapEnd s) = s.rest.take (trivia s.rest).len := by
    unfold slice gapEnd; rw [hi.rest_eq]; congr 1; omega
  rw [← hnt] at hstart hr2 hepos hecur hlit hword
  have hi2 := reach_inv src hr2 hi1
  have hie := reach_inv src hre hi1
  have hge := reach_off_le hr2
  have h1e := reach_off_le hre
  rw [gapEnd_off] at hge h1e
  have hol := hi2.off_le
  refine ⟨Nat.le_trans hge hol, by rw [hslice]; exact hrun, by rw [hslice]; exact hnl, ?_, hge, hol, hi2, ⟨e.off, ?_, h1e, ?_⟩, ?_, hword⟩
  · rw [hstart.1, hstart.2.1, ← gapEnd_off]; exact hi1.pos_eq
  · rw [hepos]; exact hie.pos_eq
  · rcases hecur with h | h <;> rw [h]
    · exact ⟨Nat.le_refl _, Nat.le_succ _⟩
    · rw [readChar_off]; omega
  · intro hty
    have happ := hlit hty
    have h1 : (readChars (trivia s.rest).len s).rest = src.drop (gapEnd s) := by rw [hi1.rest_eq, gapEnd_off]
    have hl : (nextToken s).1.lit.length + (src.length - (nextToken s).2.off) = src.length - gapEnd s := by
      have := congrArg List.length happ
      rwa [List.length_append, h1, hi2.rest_eq, List.length_drop, List.length_drop] at this
    unfold slice
    rw [← h1, ← happ, show (nextToken s).2.off - gapEnd s = (nextToken s).1.lit.length by omega, List.take_left']
    rfl

/-- tiling order: every token produced from a cursor that agrees with the source starts at the
    line/column of the byte offset where the cursor stood after skipping trivia (`so`), its end offset
    `eo` (cursor after the token) is inside the source, offsets never go backwards
    (`start ≤ so ≤ eo ≤ length`), and the next token starts at or after `eo`: no byte is consumed twice. -/
theorem lexGoO_positions (src : Bytes) (fuel : Nat) (s : LS) (hi : LInv src s) :
    ∀ x ∈ lexGoO fuel s, (x.1.sl, x.1.sc) = lc src x.2.1 ∧ s.off ≤ x.2.1 ∧ x.2.1 ≤ x.2.2 ∧ x.2.2 ≤ src.length := by
  induction fuel generalizing s with
  | zero => intro x hx; simp [lexGoO] at hx
  | succ fuel ih =>
    intro x hx
    obtain ⟨_, _, _, hpos, hge, hle, hi2, _⟩ := token_step src s hi
    have hhead : ((nextToken s).1.sl, (nextToken s).1.sc) = lc src (readChars (trivia s.rest).len s).off ∧
        s.off ≤ (readChars (trivia s.rest).len s).off ∧
        (readChars (trivia s.rest).len s).off ≤ (nextToken s).2.off ∧ (nextToken s).2.off ≤ src.length := by
      rw [gapEnd_off]; exact ⟨hpos, Nat.le_add_right _ _, hge, hle⟩
    simp only [lexGoO] at hx
    split at hx
    · simp only [List.mem_singleton] at hx; subst hx; exact hhead
    · simp only [List.mem_cons] at hx
      rcases hx with rfl | hx
      · exact hhead
      · have := ih (nextToken s).2 hi2 x hx
        exact ⟨this.1, Nat.le_trans (Nat.le_trans hhead.2.1 hhead.2.2.1) this.2.1, this.2.2.1, this.2.2.2⟩

/-- the same for the whole input, from the initial cursor -/
theorem token_positions (src : Bytes) :
    ∀ x ∈ lexGoO (src.length + 1) (LS.init src),
      (x.1.sl, x.1.sc) = lc src x.2.1 ∧ x.2.1 ≤ x.2.2 ∧ x.2.2 ≤ src.length := by
  intro x hx
  have := lexGoO_positions src _ _ (linv_init src) x hx
  exact ⟨this.1, this.2.2.1, this.2.2.2⟩

/-- the cursor states from which `lexAll` requests its tokens -/
def requests : Nat → LS → List LS
  | 0, _ => []
  | fuel + 1, s => if (nextToken s).1.type == .eof then [s] else s :: requests fuel (nextToken s).2

/-- the token list is `NextToken` applied to the request states, in order -/
theorem tokens_of_requests (fuel : Nat) (s : LS) : lexGo fuel s = (requests fuel s).map (fun st => (nextToken st).1) := by
  induction fuel generalizing s with
  | zero => rfl
  | succ fuel ih =>
    simp only [lexGo, requests]
    split <;> simp_all

/-- each request starts where the previous token ended -/
def Adjacent : List LS → Prop
  | a :: b :: l => b = (nextToken a).2 ∧ Adjacent (b :: l)
  | _ => True

/-- every request is made from a cursor that agrees with the source, and each one starts where the previous token
    ended: `token_step` applies to every token of `lexAll src`, and consecutive tokens are adjacent up to the gap -/
theorem requests_agree_with_source (src : Bytes) (fuel : Nat) (s : LS) (hi : LInv src s) :
    (∀ st ∈ requests fuel s, LInv src st) ∧ Adjacent (requests fuel s) := by
  induction fuel generalizing s with
  | zero => exact ⟨by simp [requests], by simp [requests, Adjacent]⟩
  | succ fuel ih =>
    have hn := (token_step src s hi).2.2.2.2.2.2.1
    simp only [requests]
    split
    · exact ⟨by simpa using hi, by simp [Adjacent]⟩
    · obtain ⟨h1, h2⟩ := ih (nextToken s).2 hn
      refine ⟨?_, ?_⟩
      · intro st hst
        simp only [List.mem_cons] at hst
        rcases hst with rfl | hst
        · exact hi
        · exact h1 st hst
      · cases hq : requests fuel (nextToken s).2 with
        | nil => simp [Adjacent]
        | cons a l =>
          rw [hq] at h2
          refine ⟨?_, h2⟩
          cases fuel with
          | zero => simp [requests] at hq
          | succ f =>
            simp only [requests] at hq
            split at hq <;> (cases hq; rfl)

/-! Non-vacuity -/
example : (lexAll [97, 32, 61, 61, 10, 98]).map (fun t => (t.type, t.sl, t.sc)) =
    [(.ident, 0, 0), (.eq, 0, 2), (.ident, 1, 0), (.eof, 1, 1)] := by decide
example : lc [97, 32, 61, 61, 10, 98] 5 = (1, 0) := by decide

end Xjs.C10

#print axioms Xjs.C10.lexAll_total
#print axioms Xjs.C10.lexGoO_positions
#print axioms Xjs.C10.token_positions
#print axioms Xjs.C10.instrumented_tokens
#print axioms Xjs.C10.eof_sticky
#print axioms Xjs.C10.eof_only_at_end
#print axioms Xjs.C10.progress
#print axioms Xjs.C10.token_step
#print axioms Xjs.C10.tokens_of_requests
#print axioms Xjs.C10.requests_agree_with_source
