import XjsModel.Proofs.ParserTokensPass
import XjsModel.Proofs.ParserProvPass
/-
  C12 — Strict mode never silently accepts malformed programs.

  Quantifier: ALL token lists, all modes, operator tables and interceptor lists.

  Proved here (`Parse.tokens`, an induction on the error-free runs of the parser; `tokens_mutual` for all runs):
    TOKEN FAITHFULNESS. If a parse reports no error, then the sequence of tokens the parser has moved over —
    the input up to the end-of-input token it stopped at — is, after deleting `;` and `,`, EXACTLY the token
    sequence of the tree it returns (`StmtList.flat`: every node's tokens in source order, with the fixed punctuation
    of each construct). No token is skipped, none is invented, none is reordered: an accepted text IS a spelling of
    the returned tree. Consequently a corruption that leaves a token that fits nowhere, removes a required token,
    or truncates a construct cannot be accepted silently: the equation cannot hold for the tree of any construct.
    Together with C11 (an error-free tree is complete) this is the soundness half of C12.
    PROVENANCE (`Parse.prov`, all runs, with or without errors): every token stored in the returned tree, as a full
    record, is a token of the input or one of three end markers.
  Decided by the correspondence run on corrupted programs and the model-free oracle (reference JavaScript parser):
    that the first error is not located before the last intact token; the over-acceptances of the grammar itself
    (known findings `static-overaccept`, `postfix-as-callee-or-object`, `asi-before-backtick`).
-/
namespace Xjs.C12
open Xjs

/-- `Parser.NextToken` on the token buffer alone -/
def nextL : List Token → List Token
  | _ :: t :: ts => t :: ts
  | [t] => [eofAgain t]
  | [] => []
def curL (l : List Token) : Token := l.headD dummyTok
/-- the types of the first `n` cursor positions -/
def spanL : List Token → Nat → List TokType
  | _, 0 => []
  | l, n + 1 => (curL l).type :: spanL (nextL l) n

theorem next_toks (st : PS) : st.next.toks = nextL st.toks := by
  unfold PS.next nextL; split <;> simp_all
theorem cur_eq (st : PS) : st.cur = curL st.toks := rfl

/-- `k` applications of `nextL` -/
def nextN : Nat → List Token → List Token
  | 0, l => l
  | k + 1, l => nextN k (nextL l)

theorem nextN_succ' (k : Nat) (l : List Token) : nextN (k + 1) l = nextL (nextN k l) := by
  induction k generalizing l with
  | zero => rfl
  | succ k ih => rw [nextN, ih (nextL l)]; rfl

theorem nextN_add (a b : Nat) (l : List Token) : nextN (a + b) l = nextN b (nextN a l) := by
  induction a generalizing l with
  | zero => simp [nextN]
  | succ a ih => rw [Nat.succ_add]; simp only [nextN]; exact ih _

theorem spanL_add (l : List Token) (a b : Nat) : spanL l (a + b) = spanL l a ++ spanL (nextN a l) b := by
  induction a generalizing l with
  | zero => simp [spanL, nextN]
  | succ a ih =>
    rw [Nat.succ_add]
    simp only [spanL, nextN]
    rw [ih]; rfl

theorem spanL_succ_last (l : List Token) (k : Nat) : spanL l (k + 1) = spanL l k ++ [(curL (nextN k l)).type] := by
  rw [spanL_add l k 1]; simp [spanL]

/-- the ghost field `consumed` is the list of token types at the cursor positions passed so far -/
theorem Steps.consumed_span {s s' : PS} (h : Steps s s') :
    ∃ k, s'.toks = nextN k s.toks ∧ s'.consumed = s.consumed ++ spanL s.toks k := by
  induction h with
  | refl => exact ⟨0, rfl, by simp [spanL]⟩
  | next _ ih =>
    obtain ⟨k, h1, h2⟩ := ih
    refine ⟨k + 1, ?_, ?_⟩
    · rw [next_toks, h1, nextN_succ']
    · rw [next_consumed, h2, spanL_succ_last, cur_eq, h1, List.append_assoc]
  | addErr _ _ _ _ ih => exact ih
  | trace _ _ _ ih => exact ih
  | ctxBracket c _ _ ih1 ih2 =>
    obtain ⟨k1, a1, b1⟩ := ih1
    obtain ⟨k2, a2, b2⟩ := ih2
    refine ⟨k1 + k2, ?_, ?_⟩
    · simp only [PS.pop, PS.push] at *; rw [a2, a1, nextN_add]
    · simp only [PS.pop, PS.push] at *; rw [b2, b1, a1, spanL_add, List.append_assoc]
  | precBracket _ _ _ _ ih1 ih2 =>
    obtain ⟨k1, a1, b1⟩ := ih1
    obtain ⟨k2, a2, b2⟩ := ih2
    refine ⟨k1 + k2, ?_, ?_⟩
    · simp only at *; rw [a2, a1, nextN_add]
    · simp only at *; rw [b2, b1, a1, spanL_add, List.append_assoc]

/-- TOKEN FAITHFULNESS: an error-free parse has moved over exactly the tokens of the tree it returns
    (`;` and `,` aside), and stopped on an end-of-input token. -/
theorem accepted_text_is_the_tree (cfg : PCfg) (toks : List Token) (r : ParseResult)
    (h : parseProgram cfg toks = some r) (hok : r.errors = []) :
    ∃ k, r.final.toks = nextN k toks ∧ F (spanL toks k) = F r.prog.flat ∧ r.final.cur.type = .eof := by
  have hs := steps_parseProgram cfg toks r h
  obtain ⟨k, hk1, hk2⟩ := Steps.consumed_span hs
  unfold parseProgram at h
  obtain ⟨⟨stmts, st⟩, h1, h2⟩ := bind_some h
  cases h2
  simp only [PS.init, List.nil_append] at hk1 hk2
  refine ⟨k, hk1, ?_, ?_⟩
  · have ht := ((Parse.of_run (c := .programLoop .nil) h1).errorFree (by simp_all [PS.elen])).tokens
    have := ht [] (by simp [FC, PS.init, StmtList.flat])
    simp only [FC, List.nil_append] at this
    rw [← hk2]; exact this
  · -- the statement loop of `ParseProgram` only stops on an end-of-input token
    have : ∀ acc st r, programLoop cfg acc st = some r → r.2.cur.type = .eof := by
      intro acc st r hh
      refine programLoop.partial_correctness cfg (fun _ _ r => r.2.cur.type = .eof) ?_ acc st r hh
      intro f ih acc st r h
      split at h
      · obtain ⟨⟨s, st1⟩, _, h2⟩ := bind_some h; exact ih _ _ _ h2
      · rename_i hc; cases h; simpa using hc
    exact this _ _ _ h1

/-- while the cursor has not stepped beyond the token list, the positions passed are a prefix of the input -/
theorem spanL_prefix (l : List Token) (k : Nat) (hk : k < l.length) : spanL l k = (l.take k).map (·.type) := by
  induction k generalizing l with
  | zero => simp [spanL]
  | succ k ih =>
    match l, hk with
    | a :: b :: ts, hk =>
      simp only [spanL, curL, nextL, List.headD_cons, List.take_succ_cons, List.map_cons]
      rw [ih (b :: ts) (by simp at hk ⊢; omega)]
    | [a], hk => simp at hk

/-- NOTHING SKIPPED: if the parser did not step beyond the end of the token list, the accepted input — all its
    tokens before the end-of-input token the parser stopped at — is exactly the token sequence of the tree. -/
theorem nothing_skipped (cfg : PCfg) (toks : List Token) (r : ParseResult)
    (h : parseProgram cfg toks = some r) (hok : r.errors = []) :
    ∃ k, (k < toks.length → F ((toks.take k).map (·.type)) = F r.prog.flat) ∧ r.final.toks = nextN k toks := by
  obtain ⟨k, h1, h2, _⟩ := accepted_text_is_the_tree cfg toks r h hok
  exact ⟨k, fun hk => by rw [← spanL_prefix toks k hk]; exact h2, h1⟩

/-- an ILLEGAL token (e.g. an unterminated literal, a NUL byte, an unknown character) never occurs in the flat
    token sequence of a tree built with the built-in tables' literal tokens … it would have to be consumed by a
    construct; with the built-in tables no construct starts with, or continues over, an ILLEGAL token -/
theorem illegal_is_no_prefix_token : lookup basePrefixFns .illegal = none ∧ lookup baseInfixFns .illegal = none := by
  decide

/-! Non-vacuity -/
example : ∃ r, parseProgram {} [dummyTok] = some r ∧ r.errors = [] := by
  refine ⟨{ prog := .nil, errors := [], hasErr := false, final := PS.init [dummyTok] }, ?_, rfl⟩
  rw [parseProgram, programLoop]
  simp [PS.init, PS.cur, dummyTok]
example : F ((Stmt.exprS (.binary { type := .plus, lit := [43], sl := 0, sc := 1, el := 0, ec := 1 }
    (.ident { tok := { type := .ident, lit := [97], sl := 0, sc := 0, el := 0, ec := 1 }, value := [97] }) [43]
    (.int { type := .int, lit := [49], sl := 0, sc := 2, el := 0, ec := 3 }))).flat) = [.ident, .plus, .int] := by decide

/-! ### nothing invented, as full token records -/

/-- the tokens a tree may store: those of the input; beyond them only the repeat of the last one as end of input
    (trivia cleared), the end token of an empty input, and Go's zero token (the unrecorded closing brace of `{}`) -/
def FromInput (toks : List Token) (t : Token) : Prop :=
  t ∈ toks ∨ t = dummyTok ∨ t = zeroTok ∨ ∃ u ∈ toks, t = eofAgain u

theorem fromInput_closed (toks : List Token) : Closed (FromInput toks) := by
  refine ⟨Or.inr (Or.inl rfl), Or.inr (Or.inr (Or.inl rfl)), ?_⟩
  intro t ht
  rcases ht with h | h | h | ⟨u, hu, h⟩
  · exact Or.inr (Or.inr (Or.inr ⟨t, h, rfl⟩))
  · subst h; exact Or.inr (Or.inl rfl)
  · subst h; exact Or.inr (Or.inr (Or.inl rfl))
  · subst h; exact Or.inr (Or.inr (Or.inr ⟨u, hu, rfl⟩))

/-- every token stored anywhere in the returned tree — positions, literal, after-newline flag and leading comments
    included — is a token of the input (or one of the three end markers): for every token list, mode, table and
    interceptor chain, whatever errors were reported -/
theorem tree_tokens_come_from_the_input (cfg : PCfg) (toks : List Token) (r : ParseResult)
    (h : parseProgram cfg toks = some r) : r.prog.allT (FromInput toks) :=
  prov_parseProgram cfg _ (fromInput_closed toks) toks r h (fun _ ht => Or.inl ht)

/-! Non-vacuity: `allT` of a one-statement tree says its token is an input token -/
example (toks : List Token) (t : Token) (h : (StmtList.cons (.exprS (.int t)) .nil).allT (FromInput toks)) :
    FromInput toks t := by simpa [StmtList.allT, Stmt.allT, Expr.allT] using h

end Xjs.C12

#print axioms Xjs.C12.accepted_text_is_the_tree
#print axioms Xjs.C12.nothing_skipped
#print axioms Xjs.C12.illegal_is_no_prefix_token
#print axioms Xjs.C12.tree_tokens_come_from_the_input
