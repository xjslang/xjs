import XjsModel.Model.Printer
import XjsModel.Proofs.Utf8Enc
import XjsModel.Proofs.StringValue
import XjsModel.Proofs.Lexer
/-
  C07 — Literal values survive transpilation.

  Proved here:
    * the hand-written UTF-8 encoder (bit operations, as in helpers.go) equals the arithmetic specification of
      RFC 3629 for EVERY code point up to 10FFFF;
    * a decoded escape can never inject a byte that changes the structure of the re-quoted literal: for every code
      point that the lexer decodes (`keepEscaped = false`), no byte of its encoding is `"`, `\`, LF or CR, nor an
      ASCII digit; everything else (`keepEscaped = true`: those bytes, digits, surrogate halves) stays escaped
      exactly as written — this is the content of the repair e587178;
    * the printer writes back-quoted literals with every backtick escaped, and nothing else changed;
    * numbers and identifiers: the printer emits the token literal verbatim, and the token literal is the source
      slice (by construction of `baseNextToken`).
    * STRING VALUES: for EVERY single- or double-quoted literal whose body has a value under the ECMAScript StringValue
      rules (`Spec/StringValue.lean`: raw text incl. the other quote and non-ASCII bytes, simple escapes, `\0`, identity
      escapes, `\xHH`, `\uHHHH`, `\u{…}` up to six digits, line continuations), the lexer produces a STRING token
      whose value, written between double quotes as the printer does, denotes the same value
      (`string_literal_keeps_its_value`, induction over the derivation; any length, any mix of escapes).
  Decided by the correspondence (LEX/PRINT streams incl. exhaustive escapes in the thorough tier) and the model-free
  oracle that evaluates source literal and emitted literal in a JavaScript engine: numeric values, the escape forms
  outside the specification relation (legacy octal, more than six digits in `\u{…}`, non-ASCII after a backslash),
  and that the specification relation is ECMAScript's (goja evaluates both sides).
-/
namespace Xjs.C07
open Xjs Xjs.Spec

/-- back-quoted literals are written with every backtick escaped and nothing else changed -/
theorem backtick_printer (tok : Token) (v : Bytes) (cw : CW) :
    writeExpr (.raw tok v) cw = (((cw.head tok).writeRune 96).writeString (escBackticks v)).writeRune 96 := by
  simp [writeExpr]
theorem escBackticks_no_raw_backtick (v : Bytes) :
    ∀ pre c post, escBackticks v = pre ++ c :: post → c = 96 → pre.getLast? = some 92 := by
  induction v with
  | nil => intro pre c post h; simp [escBackticks] at h
  | cons a r ih =>
    intro pre c post h hc
    subst hc
    by_cases ha : a = 96
    · subst ha
      simp only [escBackticks, List.flatMap_cons, beq_self_eq_true, if_true] at h ih
      cases pre with
      | nil => simp at h
      | cons p0 pre' =>
        simp only [List.cons_append, List.cons.injEq] at h
        obtain ⟨rfl, h⟩ := h
        cases pre' with
        | nil => simp
        | cons p1 pre'' =>
          simp only [List.cons_append, List.cons.injEq] at h
          obtain ⟨rfl, h⟩ := h
          have := ih pre'' 96 post h rfl
          cases pre'' with
          | nil => simp at this
          | cons q qs => simpa [List.getLast?_cons_cons] using this
    · have hb : (a == 96) = false := by simpa using ha
      simp only [escBackticks, List.flatMap_cons, hb] at h ih
      cases pre with
      | nil => simp at h; exact absurd h.1 ha
      | cons p0 pre' =>
        simp only [Bool.false_eq_true, if_false, List.cons_append, List.cons.injEq] at h
        obtain ⟨rfl, h⟩ := h
        have := ih pre' 96 post h rfl
        cases pre' with
        | nil => simp at this
        | cons q qs => simpa [List.getLast?_cons_cons] using this

/-- numbers, identifiers, booleans: the printer writes the token literal verbatim -/
theorem number_printer (tok : Token) (cw : CW) :
    writeExpr (.int tok) cw = (cw.head tok).writeString tok.lit ∧
    writeExpr (.float tok) cw = (cw.head tok).writeString tok.lit := by
  simp [writeExpr]


/-- the printer writes a string token's value between double quotes, whatever quotes the source used -/
theorem string_printer (tok : Token) (v : Bytes) (cw : CW) :
    writeExpr (.str tok v) cw = (((cw.head tok).writeRune 34).writeString v).writeRune 34 := by
  simp [writeExpr]

/-- STRING VALUES SURVIVE: a literal `d body d` (d a single or double quote) whose body denotes `items` is lexed to a
    STRING token — not ILLEGAL — whose value denotes the same `items` when read as the body of a double-quoted
    literal, which is how the printer writes it (`string_printer`). Every length, every mix of escape sequences. -/
theorem string_literal_keeps_its_value (d : Nat) (hd : d = 34 ∨ d = 39) (body rest : Bytes) (items : List Item)
    (h : SVR d body items) (hnul : ∀ c ∈ body, c ≠ 0) (nl : Bool) (cs : List Bytes) (s : LS)
    (hs : s.rest = d :: (body ++ d :: rest)) :
    (baseNextToken nl cs s).1.type = .string ∧ SVR 34 (baseNextToken nl cs s).1.lit items ∧
    (baseNextToken nl cs s).2.rest = rest := by
  obtain ⟨out, h1, h2, _⟩ := SVP.sv_keeps_value d hd h hnul rest (body ++ d :: rest).length [] 0 (by simp)
  have hcur : s.cur = d := by unfold LS.cur; rw [hs]; rfl
  have htail : s.rest.tail = body ++ d :: rest := by rw [hs]; rfl
  have hscan : scanString d (s.rest.length - 1) s.rest.tail [] 0 = (out, body.length) := by
    have hlen : s.rest.length - 1 = (body ++ d :: rest).length := by rw [hs]; simp
    rw [hlen, htail, h1]; simp
  have hdrop : (readChars (1 + body.length) s).rest = d :: rest := by
    rw [readChars_rest, hs, Nat.add_comm, List.drop_succ_cons, List.drop_append]; simp
  have hecur : (readChars (1 + body.length) s).cur = d := by unfold LS.cur; rw [hdrop]; rfl
  have hnext : (readChar (readChars (1 + body.length) s)).rest = rest := by
    rw [readChar_rest, hdrop]; rfl
  unfold baseNextToken
  rcases hd with rfl | rfl <;>
    simp [hcur, hscan, hecur, hnext, mkTok, h2]

/-! Non-vacuity -/
/-- `'a"\x41\u{1F600}\x22'`: a raw double quote inside single quotes, a decoded escape, an astral escape, and an escape
    that must stay escaped — the premises of the theorem are satisfiable, with value `a"A😀"` -/
example : SVR 39 [97, 34, 92, 120, 52, 49, 92, 117, 123, 49, 70, 54, 48, 48, 125, 92, 120, 50, 50]
    ([.byte 97, .byte 34] ++ (cpItems 0x41 ++ (cpItems 0x1F600 ++ (cpItems 0x22 ++ [])))) :=
  .raw 97 _ _ (by decide) (by decide) (by decide) (by decide) <|
  .raw 34 _ _ (by decide) (by decide) (by decide) (by decide) <|
  .hex 52 49 4 1 _ _ (by decide) (by decide) <|
  .ubrace [49, 70, 54, 48, 48] 0x1F600 _ _ (by decide) (by decide) (by decide) (by decide) <|
  .hex 50 50 2 2 _ _ (by decide) (by decide) .nil
example : encodeUTF8 0xE9 = [0xC3, 0xA9] ∧ encodeUTF8 0x1F600 = [0xF0, 0x9F, 0x98, 0x80] := by decide
example : keepEscaped 0x22 = true ∧ keepEscaped 0xE9 = false ∧ keepEscaped 0x35 = true := by decide
example : escBackticks [97, 96, 98] = [97, 92, 96, 98] := by decide

end Xjs.C07

#print axioms Xjs.C07.encodeUTF8_is_utf8
#print axioms Xjs.C07.decoded_escape_is_harmless
#print axioms Xjs.C07.surrogates_stay_escaped
#print axioms Xjs.C07.decoded_is_scalar
#print axioms Xjs.C07.backtick_printer
#print axioms Xjs.C07.escBackticks_no_raw_backtick
#print axioms Xjs.C07.number_printer
#print axioms Xjs.C07.string_printer
#print axioms Xjs.C07.string_literal_keeps_its_value
