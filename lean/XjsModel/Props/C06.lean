import XjsModel.Proofs.IndentTree
/-
  C06 — Pretty printing changes layout only, and is stable.

  Proved here, for ALL trees (parsed or programmatic), both semicolon settings and ANY two indent units made of
  spaces and tabs (`WithSpaces(n)` for every n, `WithTabs()`, and the empty string = the default two spaces):
    (c) the two pretty-printed texts are equal after deleting, on every line, the leading run of spaces and tabs
        (`nrmB true`) — i.e. the indentation option changes only leading
        whitespace. The statement is about the text the writer produces; the compiler's final clean-up
        (`TrimSpace` + per-line `TrimRight(" ")`) is layout-only as well but is not covered by the theorem.
    the deferred indentation (`'\t'` in the pending buffer) is only ever pending behind a pending line feed
        (`PendShape`), which is why indentation can never land inside a line.
  Decided by the correspondence run (option grid) and the model-free oracle (re-parse, double formatting,
  semicolon-only difference): (a) same tree as compact, (b) idempotence, (d) the semicolon option. Known findings
  there: `nosemi-hazard` (D6), `trim-in-literal` (D5).
-/
namespace Xjs.C06
open Xjs

/-- the text the pretty printer writes (before the compiler's final clean-up) -/
def prettyRaw (indent : Bytes) (semis : Bool) (prog : StmtList) : Bytes :=
  (writeProgramStmts prog true { pretty := true, indentString := indent, semis := semis }).out

theorem allWs_indentUnit (indent : Bytes) (h : AllWs indent) :
    AllWs ({ pretty := true, indentString := indent } : CW).indentUnit := by
  unfold CW.indentUnit
  split
  · intro c hc; simp at hc; rcases hc with rfl | rfl <;> rfl
  · exact h

/-- (c) Indentation options change only leading whitespace. -/
theorem indentation_changes_only_leading_whitespace (A B : Bytes) (hA : AllWs A) (hB : AllWs B) (semis : Bool)
    (prog : StmtList) :
    nrmB true (prettyRaw A semis prog) = nrmB true (prettyRaw B semis prog) := by
  have h0 : IndRel { pretty := true, indentString := A, semis := semis } { pretty := true, indentString := B, semis := semis } :=
    ⟨rfl, rfl, rfl, rfl, rfl, rfl, rfl, Eqv.refl _, allWs_indentUnit A hA, allWs_indentUnit B hB, Or.inl rfl⟩
  exact (ind_writeProgramStmts prog true _ _ h0).out.1

/-- the indent strings the public options can produce are made of spaces / a tab -/
theorem option_indents_are_whitespace (n : Nat) : AllWs (List.replicate n 32) ∧ AllWs [9] := by
  constructor
  · intro c hc; rw [List.mem_replicate] at hc; rw [hc.2]; rfl
  · intro c hc; simp at hc; subst hc; rfl

/-- what `nrmB` keeps: everything except spaces/tabs that directly follow a line feed (or start the text) -/
example : nrmB true (strBytes "{\n    a;\n\t\tb; c\n}") = strBytes "{\na;\nb; c\n}" := by decide +kernel

/-! Non-vacuity: a block with one statement, two spaces vs a tab -/
private def demo : StmtList :=
  .cons (.block { type := .lbrace, lit := [123], sl := 0, sc := 0, el := 0, ec := 0 }
    (.cons (.exprS (.ident { tok := { type := .ident, lit := [97], sl := 0, sc := 2, el := 0, ec := 3 }, value := [97] })) .nil)
    { type := .rbrace, lit := [125], sl := 0, sc := 4, el := 0, ec := 4 }) .nil
example : prettyRaw [32, 32] true demo = [123, 10, 32, 32, 97, 59, 10, 125] ∧ prettyRaw [9] true demo = [123, 10, 9, 97, 59, 10, 125] := by decide

end Xjs.C06

#print axioms Xjs.C06.indentation_changes_only_leading_whitespace
#print axioms Xjs.C06.option_indents_are_whitespace
