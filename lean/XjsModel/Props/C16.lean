import XjsModel.Proofs.ParserFrame
import XjsModel.Proofs.ParserEventsPass
/-
  C16 — Parsing-context queries reflect the real nesting.

  Quantifier: ALL token lists (hence all inputs, valid or malformed), ALL parser configurations
  (strict/tolerant, smart semicolons, any operator tables, any interceptor lists).

  Proved here, by the frame theorem `Parse.steps` + inductions on `Steps`:
    (a) after parsing any input the context stack is back at `[Global]`;
    (b) every parse function returns with the stack it was entered with (push/pop are balanced on every
        exit path, including all error paths);
    (c, partial) what an interceptor observes is faithful to the stack at that moment
        (`IsInFunction ↔ Function ∈ stack`, `CurrentContext = top`), the stack never differs from the
        caller's below the caller's depth, every event recorded while a function body is parsed reports
        `IsInFunction = true`, and the stack a statement/expression interceptor sees is exactly the stack with which the
        statement/expression was entered.
    (d) after an error-free parse every recorded answer is the one `Spec/Events` computes from the returned tree
        (`answers_equal_the_nesting_in_the_tree`, from `Parse.events`).
  NOT proved in Lean (decided by the correspondence run and the model-free context oracle only): the same when
  errors were recorded.
-/
namespace Xjs.C16
open Xjs

/-- (b) statements: balanced on every exit path -/
theorem statement_balanced (cfg : PCfg) (is : List SI) (st : PS) (r : Stmt × PS)
    (h : parseStatementI cfg is st = some r) : r.2.ctx = st.ctx :=
  (steps_parseStatementI h).ctx_eq

/-- (b) expressions (function expressions push and pop inside) -/
theorem expression_balanced (cfg : PCfg) (is : List EI) (prec : Nat) (st : PS) (r : Expr × PS)
    (h : parseExpressionI cfg is prec st = some r) : r.2.ctx = st.ctx :=
  (steps_parseExpressionI cfg is prec st r h).ctx_eq

/-- (a) after parsing ANY token list in ANY configuration the context is back at top level -/
theorem final_context_is_global (cfg : PCfg) (toks : List Token) (r : ParseResult)
    (h : parseProgram cfg toks = some r) :
    r.final.ctx = [.global] ∧ r.final.currentContext = .global ∧ r.final.isInFunction = false := by
  have := (steps_parseProgram cfg toks r h).ctx_eq
  simp only [PS.init] at this
  refine ⟨this, ?_, ?_⟩
  · simp [PS.currentContext, this]
  · simp [PS.isInFunction, this]

/-- the same for source text -/
theorem final_context_is_global_src (cfg : PCfg) (src : Bytes) (r : ParseResult)
    (h : parseSource cfg src = some r) : r.final.ctx = [.global] :=
  (final_context_is_global cfg (lexAll src) r h).1

/-- (c) every event recorded during a whole parse is faithful (`IsInFunction`, `CurrentContext`, depth are
    those of the stack at that moment) and its stack has `Global` at the bottom -/
theorem events_faithful (cfg : PCfg) (toks : List Token) (r : ParseResult)
    (h : parseProgram cfg toks = some r) :
    ∀ ev ∈ r.final.trace, ev.Faithful ∧ [Ctx.global] <:+ ev.stack := by
  obtain ⟨new, h1, h2⟩ := (steps_parseProgram cfg toks r h).events
  simp only [PS.init, List.nil_append] at h1
  intro ev hev
  rw [h1] at hev
  exact h2 ev hev

/-- (c) while a function body (declaration or expression, at any depth) is being parsed, every
    interceptor invocation reports `IsInFunction = true`, and its stack extends the function's own -/
theorem events_inside_function_body (cfg : PCfg) (st : PS) (r : Stmt × PS)
    (h : parseBlockStatement cfg (st.push .function) = some r) :
    ∃ new, r.2.trace = st.trace ++ new ∧
      ∀ ev ∈ new, ev.inFunction = true ∧ (Ctx.function :: st.ctx) <:+ ev.stack := by
  obtain ⟨new, h1, h2⟩ := (steps_of_run (c := .block) h).events
  refine ⟨new, h1, ?_⟩
  intro ev hev
  obtain ⟨hf, hs⟩ := h2 ev hev
  refine ⟨?_, hs⟩
  rw [hf.1]
  obtain ⟨pre, hpre⟩ := hs
  rw [← hpre]
  simp [PS.push]

/-- (c) the first thing a chain of statement interceptors does is observe the state the statement is entered
    with: current token = first token of the statement, stack = the stack at entry -/
theorem statement_interceptor_sees_entry_state (cfg : PCfg) (i : SI) (rest : List SI) (st : PS) :
    parseStatementI cfg (i :: rest) st =
      parseStatementI cfg rest { st with trace := st.trace ++ [st.event false i.id] } ∧
    (st.event false i.id).cur = st.cur ∧ (st.event false i.id).stack = st.ctx := by
  refine ⟨?_, rfl, rfl⟩
  rw [parseStatementI]

/-! Non-vacuity: the hypotheses are satisfiable (the empty program here; the correspondence run executes the
    same definition `parseProgram` on thousands of generated inputs, all of which return `some`). -/
example : ∃ r, parseProgram {} [dummyTok] = some r ∧ r.final.ctx = [.global] := by
  have h : parseProgram {} [dummyTok] =
      some { prog := .nil, errors := [], hasErr := false, final := PS.init [dummyTok] } := by
    rw [parseProgram, programLoop]
    simp [PS.init, PS.cur, dummyTok]
  exact ⟨_, h, rfl⟩

/-! ### the answers are the nesting of the tree -/

/-- the context stack the specification gives an event is the syntactic nesting of its place in the tree: `.function`
    for every enclosing function body (declaration or expression), `.block` for every enclosing block — so the answers
    recorded in it are those of the nesting -/
theorem event_answers_follow_its_stack (isExpr : Bool) (id : Nat) (t : Token) (ctx : List Ctx) :
    (mkEv isExpr id t ctx).inFunction = ctx.contains .function ∧ (mkEv isExpr id t ctx).ctx = ctx.headD .global ∧
    (mkEv isExpr id t ctx).stack = ctx ∧ (mkEv isExpr id t ctx).cur = t := ⟨rfl, rfl, rfl, rfl⟩

/-- whenever an interceptor runs during an error-free parse, what `IsInFunction` and `CurrentContext` answer is what the
    returned tree says about the place of the current token: the whole sequence of events — tokens and answers — is
    the one computed from the tree alone by `Spec/Events` (a function body pushes `.function`, a block `.block`),
    and after parsing the stack is back at `[global]`. For every token list, mode, table and interceptor chain. -/
theorem answers_equal_the_nesting_in_the_tree (cfg : PCfg) (toks : List Token) (r : ParseResult)
    (h : parseProgram cfg toks = some r) (hok : r.errors = []) :
    r.final.trace = r.prog.stmtsEv cfg.stmtI cfg.exprI [.global] ∧ r.final.ctx = [.global] :=
  trace_is_the_tree's cfg toks r h hok

/-! Non-vacuity: the expression statement inside `function f() { a }` is announced with the stack [block, function, global] -/
example (tf tn tb ta rb : Token) :
    (StmtList.cons (.funcD tf ⟨tn, tn.lit⟩ [] (.block tb (.cons (.exprS (.ident ⟨ta, ta.lit⟩)) .nil) rb)) .nil).stmtsEv [⟨1⟩] [] [.global] =
      [mkEv false 1 tf [.global], mkEv false 1 ta [.block, .function, .global]] := by
  simp [StmtList.stmtsEv, Stmt.innerEv, Expr.innerEv, stepS, stepE, effE, Stmt.firstTok, Expr.firstTok, tokOf]

end Xjs.C16

#print axioms Xjs.C16.statement_balanced
#print axioms Xjs.C16.expression_balanced
#print axioms Xjs.C16.final_context_is_global
#print axioms Xjs.C16.final_context_is_global_src
#print axioms Xjs.C16.events_faithful
#print axioms Xjs.C16.events_inside_function_body
#print axioms Xjs.C16.statement_interceptor_sees_entry_state
#print axioms Xjs.C16.answers_equal_the_nesting_in_the_tree
