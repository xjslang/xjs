import XjsModel.Spec.StringValue
/-
  An executable evaluator for the string-literal specification `SVR`, proved sound with respect to it
  (`svEval d body = some items → SVR d body items`). It exists so that the trusted relation can be RUN: the
  correspondence check evaluates generated literal bodies with it and compares the result, converted to UTF-16 code
  units, with what a JavaScript engine (goja) computes for the same literal.
-/
namespace Xjs.Spec

def allHex (ds : List Nat) : Bool := ds.all fun d => (hexDigit d).isSome

/-- digits of `\u{…}` up to the closing brace: (digits, rest after the brace) -/
def braceSplit : Nat → List Nat → List Nat → Option (List Nat × List Nat)
  | 0, _, _ => none
  | _ + 1, [], _ => none
  | fuel + 1, c :: r, acc => if c == 125 then some (acc, r) else braceSplit fuel r (acc ++ [c])

theorem braceSplit_spec : ∀ (fuel : Nat) (b acc ds r : List Nat), braceSplit fuel b acc = some (ds, r) →
    ∃ mid, ds = acc ++ mid ∧ b = mid ++ 125 :: r := by
  intro fuel
  induction fuel with
  | zero => intro b acc ds r h; simp [braceSplit] at h
  | succ fuel ih =>
    intro b acc ds r h
    cases b with
    | nil => simp [braceSplit] at h
    | cons c rest =>
      simp only [braceSplit] at h
      split at h
      · rename_i hc
        simp only [Option.some.injEq, Prod.mk.injEq] at h
        refine ⟨[], by simp [h.1], ?_⟩
        have : c = 125 := by simpa using hc
        rw [this, h.2]; rfl
      · obtain ⟨mid, h1, h2⟩ := ih rest (acc ++ [c]) ds r h
        exact ⟨c :: mid, by rw [h1]; simp, by rw [h2]; simp⟩

/-- the evaluator: `none` = the body is outside the specification's rules -/
def svEval (d : Nat) : Nat → List Nat → Option (List Item)
  | 0, _ => none
  | _ + 1, [] => some []
  | fuel + 1, c :: r =>
    if c == 92 then
      match r with
      | [] => none
      | e :: r1 =>
        if e == 120 then
          match r1 with
          | h1 :: h2 :: r2 =>
            match hexDigit h1, hexDigit h2 with
            | some a, some b => (svEval d fuel r2).map (cpItems (a * 16 + b) ++ ·)
            | _, _ => none
          | _ => none
        else if e == 117 then
          match r1 with
          | 123 :: r2 =>
            match braceSplit r2.length.succ r2 [] with
            | some (ds, r3) =>
              if ds.isEmpty || ds.length > 6 then none
              else match hexNumber ds with
                | some v => if v ≤ 0x10FFFF then (svEval d fuel r3).map (cpItems v ++ ·) else none
                | none => none
            | none => none
          | h1 :: h2 :: h3 :: h4 :: r2 =>
            match hexDigit h1, hexDigit h2, hexDigit h3, hexDigit h4 with
            | some a, some b, some c, some e => (svEval d fuel r2).map (cpItems (a * 4096 + b * 256 + c * 16 + e) ++ ·)
            | _, _, _, _ => none
          | _ => none
        else if e == 10 then svEval d fuel r1
        else if e == 13 then
          match r1 with
          | 10 :: r2 => svEval d fuel r2
          | _ => svEval d fuel r1
        else if e == 48 then
          if isDecimalDigit (r1.headD 0) then none else (svEval d fuel r1).map (Item.byte 0 :: ·)
        else match singleEscape e with
          | some v => (svEval d fuel r1).map (Item.byte v :: ·)
          | none => if identityEscape e then (svEval d fuel r1).map (Item.byte e :: ·) else none
    else if c == d || c == 10 || c == 13 then none
    else (svEval d fuel r).map (Item.byte c :: ·)

/-- SOUNDNESS of the evaluator: whatever it computes is derivable in the specification -/
theorem svEval_sound (d : Nat) : ∀ (fuel : Nat) (body : List Nat) (items : List Item),
    svEval d fuel body = some items → SVR d body items := by
  intro fuel body
  -- one case per branch of `svEval`; a branch that returns a value is one rule of `SVR`
  fun_induction svEval d fuel body with
  | case2 => intro _ h; cases h; exact .nil
  | case4 _ c hc e he h1 h2 r2 a b hb ha ih =>
    intro _ h
    obtain ⟨x, hx, rfl⟩ := Option.map_eq_some_iff.1 h
    cases eq_of_beq hc; cases eq_of_beq he
    exact .hex h1 h2 a b r2 x ha hb (ih x hx)
  | case8 _ c hc e _ he r2 ds r3 hsplit hlen v hv hle ih =>
    intro _ h
    obtain ⟨x, hx, rfl⟩ := Option.map_eq_some_iff.1 h
    cases eq_of_beq hc; cases eq_of_beq he
    obtain ⟨mid, rfl, rfl⟩ := braceSplit_spec _ _ _ _ _ hsplit
    simp only [Bool.or_eq_true, List.isEmpty_iff, decide_eq_true_eq, not_or, Nat.not_lt] at hlen hv
    exact .ubrace _ v r3 x hlen.1 hlen.2 hv hle (ih x hx)
  | case12 _ c hc e _ he h1 h2 h3 h4 r2 _ a b c' e' he' hc' hb ha ih =>
    intro _ h
    obtain ⟨x, hx, rfl⟩ := Option.map_eq_some_iff.1 h
    cases eq_of_beq hc; cases eq_of_beq he
    exact .u4 h1 h2 h3 h4 a b c' e' r2 x ha hb hc' he' (ih x hx)
  | case15 _ c hc e r1 _ _ he ih =>
    intro items h
    cases eq_of_beq hc; cases eq_of_beq he
    exact .contLF r1 items (ih items h)
  | case16 _ c hc e _ _ _ he r2 ih =>
    intro items h
    cases eq_of_beq hc; cases eq_of_beq he
    exact .contCRLF r2 items (ih items h)
  | case17 _ c hc e r1 _ _ _ he hne ih =>
    intro items h
    cases eq_of_beq hc; cases eq_of_beq he
    refine .contCR r1 items ?_ (ih items h)
    cases r1 with
    | nil => simp
    | cons y ys => intro h10; exact hne ys (by rw [← h10]; rfl)
  | case19 _ c hc e r1 _ _ _ _ he hd ih =>
    intro _ h
    obtain ⟨x, hx, rfl⟩ := Option.map_eq_some_iff.1 h
    cases eq_of_beq hc; cases eq_of_beq he
    exact .nul r1 x (by simpa using hd) (ih x hx)
  | case20 _ c hc e r1 _ _ _ _ _ v hv ih =>
    intro _ h
    obtain ⟨x, hx, rfl⟩ := Option.map_eq_some_iff.1 h
    cases eq_of_beq hc
    exact .single e v r1 x hv (ih x hx)
  | case21 _ c hc e r1 _ _ _ _ _ _ hid ih =>
    intro _ h
    obtain ⟨x, hx, rfl⟩ := Option.map_eq_some_iff.1 h
    cases eq_of_beq hc
    exact .ident e r1 x hid (ih x hx)
  | case24 _ c r hc hne ih =>
    intro _ h
    obtain ⟨x, hx, rfl⟩ := Option.map_eq_some_iff.1 h
    simp only [Bool.or_eq_true, beq_iff_eq, not_or] at hne hc
    exact .raw c r x hne.1.1 hc hne.1.2 hne.2 (ih x hx)
  -- every other branch returns `none`
  | _ => intro _ h; cases h

/-- UTF-16 code units of a code point -/
def utf16 (v : Nat) : List Nat :=
  if v < 0x10000 then [v] else [0xD800 + (v - 0x10000) / 1024, 0xDC00 + (v - 0x10000) % 1024]

/-- decode a (valid) UTF-8 byte sequence to code points; malformed input yields U+FFFD per byte -/
def utf8Decode : Nat → List Nat → List Nat
  | 0, _ => []
  | _ + 1, [] => []
  | fuel + 1, b :: r =>
    if b < 0x80 then b :: utf8Decode fuel r
    else if 0xC0 ≤ b ∧ b < 0xE0 then
      match r with
      | b1 :: r1 => ((b - 0xC0) * 64 + (b1 - 0x80)) :: utf8Decode fuel r1
      | _ => [0xFFFD]
    else if 0xE0 ≤ b ∧ b < 0xF0 then
      match r with
      | b1 :: b2 :: r2 => ((b - 0xE0) * 4096 + (b1 - 0x80) * 64 + (b2 - 0x80)) :: utf8Decode fuel r2
      | _ => [0xFFFD]
    else if 0xF0 ≤ b ∧ b < 0xF8 then
      match r with
      | b1 :: b2 :: b3 :: r3 => ((b - 0xF0) * 262144 + (b1 - 0x80) * 4096 + (b2 - 0x80) * 64 + (b3 - 0x80)) :: utf8Decode fuel r3
      | _ => [0xFFFD]
    else 0xFFFD :: utf8Decode fuel r

/-- the engine's string: UTF-16 code units of an item sequence (runs of bytes are UTF-8 text) -/
def itemsToUnits (items : List Item) : List Nat :=
  let rec go : Nat → List Item → List Nat → List Nat
    | 0, _, _ => []
    | _ + 1, [], pending => (utf8Decode pending.length pending).flatMap utf16
    | fuel + 1, .byte b :: r, pending => go fuel r (pending ++ [b])
    | fuel + 1, .surr v :: r, pending => (utf8Decode pending.length pending).flatMap utf16 ++ v :: go fuel r []
  go (items.length + 1) items []

end Xjs.Spec
